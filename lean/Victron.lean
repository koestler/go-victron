/- Everything, layer by layer (DESIGN.md §3 says what each module is for). -/
-- bytes, results, the line protocol of the drivers
import Victron.Basic.Bytes
import Victron.Basic.Wire
-- generated from /repo on every run (bin/gen)
import Victron.Gen.Tables
import Victron.Gen.Ble
-- hand-written models of the Go code
import Victron.Model.Frame
import Victron.Model.Proto
import Victron.Model.FileLog
import Victron.Model.TableTypes
import Victron.Model.Tables
import Victron.Model.Select
import Victron.Model.Text
import Victron.Model.Api
import Victron.Model.Cli
import Victron.Model.Ble
import Victron.Model.Aes
import Victron.Model.BleHandle
-- what the properties demand, independent of the code's structure
import Victron.Spec.FrameLang
import Victron.Spec.ProductSpec
import Victron.Spec.ListSpec
import Victron.Spec.BleLayouts
-- lemmas: the driver
import Victron.Proofs.Hex
import Victron.Proofs.Frame
import Victron.Proofs.Port
import Victron.Proofs.Recv
import Victron.Proofs.Exchange
import Victron.Proofs.Loop
import Victron.Proofs.Stream
import Victron.Proofs.Logging
import Victron.Proofs.Replay
import Victron.Proofs.Calls
-- lemmas: tables, API, CLI, text
import Victron.Proofs.Lists
import Victron.Proofs.Lookup
import Victron.Proofs.Api
import Victron.Proofs.Cli
import Victron.Proofs.Text
-- lemmas: BLE records
import Victron.Proofs.BleGeneric
import Victron.Proofs.Ble
-- the properties
import Victron.Props.C01
import Victron.Props.C02
import Victron.Props.C03
import Victron.Props.C04
import Victron.Props.C05
import Victron.Props.C06
import Victron.Props.C07
import Victron.Props.C08
import Victron.Props.C09
import Victron.Props.C10
import Victron.Props.C11
import Victron.Props.C12
import Victron.Props.C13
import Victron.Props.C14
import Victron.Props.C15
import Victron.Props.C16
import Victron.Props.C17
import Victron.Props.C18
import Victron.Props.C19
import Victron.Props.C20
