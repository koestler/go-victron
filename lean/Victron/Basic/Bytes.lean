/-
  Bytes, hex, little-endian numbers and the result type used by every model.
  Core Lean only (this file is linked into the compiled drivers).
-/
namespace Victron

/-- A byte string is a list of naturals; `IsBytes` says every element is `< 256`.
    (Plain `Nat`s keep every arithmetic goal inside `omega`'s fragment.) -/
abbrev Bytes := List Nat

def IsBytes (bs : Bytes) : Prop := ∀ b ∈ bs, b < 256

instance (bs : Bytes) : Decidable (IsBytes bs) := by unfold IsBytes; infer_instance

theorem IsBytes.nil : IsBytes [] := by intro b h; cases h
theorem IsBytes.cons {b : Nat} {bs : Bytes} (hb : b < 256) (h : IsBytes bs) : IsBytes (b :: bs) := by
  intro x hx; cases hx with
  | head => exact hb
  | tail _ hx => exact h x hx
theorem IsBytes.head {b : Nat} {bs : Bytes} (h : IsBytes (b :: bs)) : b < 256 := h b (by simp)
theorem IsBytes.tail {b : Nat} {bs : Bytes} (h : IsBytes (b :: bs)) : IsBytes bs :=
  fun x hx => h x (by simp [hx])
theorem IsBytes.append {a b : Bytes} (ha : IsBytes a) (hb : IsBytes b) : IsBytes (a ++ b) := by
  intro x hx; rcases List.mem_append.mp hx with h | h
  · exact ha x h
  · exact hb x h
theorem IsBytes.of_append_left {a b : Bytes} (h : IsBytes (a ++ b)) : IsBytes a :=
  fun x hx => h x (List.mem_append.mpr (Or.inl hx))
theorem IsBytes.of_append_right {a b : Bytes} (h : IsBytes (a ++ b)) : IsBytes b :=
  fun x hx => h x (List.mem_append.mpr (Or.inr hx))

theorem IsBytes.take {l : Bytes} (h : IsBytes l) (k : Nat) : IsBytes (l.take k) := fun b hb => h b (List.mem_of_mem_take hb)
theorem IsBytes.drop {l : Bytes} (h : IsBytes l) (k : Nat) : IsBytes (l.drop k) := fun b hb => h b (List.mem_of_mem_drop hb)

/-- Error kinds, as the harness canonicalises real Go errors with `errors.Is`. -/
inductive Err where
  | unknownId | notSupported | parameterError   -- vedirect device errors
  | invalidEnum                                   -- veconst.ErrInvalidEnumIdx
  | ctxDone                                       -- vedirectapi.ErrCtxDone
  | tooShort                                      -- bleparser.ErrInputTooShort
  | unsupportedType                               -- veregister.ErrUnsupportedType
  | other                                         -- any other non-nil error
  deriving DecidableEq, Repr, Inhabited

def Err.toString : Err → String
  | .unknownId => "unknown-id" | .notSupported => "not-supported" | .parameterError => "parameter-error"
  | .invalidEnum => "invalid-enum" | .ctxDone => "ctx-done" | .tooShort => "too-short"
  | .unsupportedType => "unsupported-type" | .other => "other"

/-- Result of a Go call: a value, a returned error, or a run-time panic
    (bounds check failed). "Never panics" is the theorem "the result is never `.panic`". -/
inductive R (α : Type) where
  | ok (a : α) | err (e : Err) | panic
  deriving DecidableEq, Repr

namespace R
def bind {α β} (r : R α) (f : α → R β) : R β :=
  match r with | .ok a => f a | .err e => .err e | .panic => .panic
instance : Monad R where
  pure := .ok
  bind := R.bind
def isOk {α} : R α → Bool | .ok _ => true | _ => false
def isPanic {α} : R α → Bool | .panic => true | _ => false
def map' {α β} (f : α → β) : R α → R β
  | .ok a => .ok (f a) | .err e => .err e | .panic => .panic
end R

/-! ### Hex -/

/-- ASCII code of the upper-case hex digit of `n` (`n < 16`). -/
def hexDigit (n : Nat) : Nat := if n < 10 then 48 + n else 55 + n

/-- Two upper-case hex digits of a byte (`%02X`). -/
def hexByte (b : Nat) : Bytes := [hexDigit (b / 16), hexDigit (b % 16)]

/-- `%X` of a byte value: no padding. -/
def hexNoPad (b : Nat) : Bytes := if b < 16 then [hexDigit b] else hexByte b

/-- `%X` of a byte slice: two digits per byte. -/
def hexBytes (bs : Bytes) : Bytes := bs.flatMap hexByte

/-- Value of a hex digit character; upper and lower case (as `encoding/hex` and `strconv.ParseUint`). -/
def unhexDigit (c : Nat) : Option Nat :=
  if 48 ≤ c ∧ c ≤ 57 then some (c - 48)
  else if 65 ≤ c ∧ c ≤ 70 then some (c - 55)
  else if 97 ≤ c ∧ c ≤ 102 then some (c - 87)
  else none

/-- `hex.Decode` of an even-length digit string; `none` on a non-hex character or odd length. -/
def unhex : Bytes → Option Bytes
  | [] => some []
  | [_] => none
  | a :: b :: rest =>
    match unhexDigit a, unhexDigit b, unhex rest with
    | some x, some y, some r => some ((x * 16 + y) :: r)
    | _, _, _ => none

def isUpperHexDigit (c : Nat) : Bool := (48 ≤ c && c ≤ 57) || (65 ≤ c && c ≤ 70)

/-! ### Little-endian numbers -/

/-- Little-endian value of a byte string of any length. -/
def leNat : Bytes → Nat
  | [] => 0
  | b :: bs => b + 256 * leNat bs

/-- `littleEndianBytesToUint`: the first eight bytes, little-endian. -/
def leUint (bs : Bytes) : Nat := leNat (bs.take 8)

/-- Two's-complement reading of `v` as a `w`-bit number. -/
def toS (w : Nat) (v : Nat) : Int :=
  if v % 2 ^ w < 2 ^ (w - 1) then (v % 2 ^ w : Nat) else ((v % 2 ^ w : Nat) : Int) - (2 ^ w : Nat)

/-- `littleEndianBytesToInt`: defined for 1, 2, 4, 8 bytes only. -/
def leInt (bs : Bytes) : R Int :=
  if bs.length = 1 ∨ bs.length = 2 ∨ bs.length = 4 ∨ bs.length = 8
  then .ok (toS (8 * bs.length) (leNat bs)) else .err .other

/-- `w` little-endian bytes of `v` (what a device sends). -/
def encodeLE : Nat → Nat → Bytes
  | 0, _ => []
  | w + 1, v => (v % 256) :: encodeLE w (v / 256)

/-- Drop trailing NUL bytes (`bytes.TrimRightFunc(_, r == 0)`). -/
def trimNul (bs : Bytes) : Bytes := (bs.reverse.dropWhile (· == 0)).reverse

/-- `computeChecksum`: 0x55 - cmd - Σ data (mod 256). -/
def checksum (cmd : Nat) (data : Bytes) : Nat :=
  (0x55 + 256 * (1 + data.length) - cmd % 256 - (data.map (· % 256)).sum) % 256

/-- split at the first occurrence of `x`: `(before, after)`. -/
def splitFirst (x : Nat) : Bytes → Option (Bytes × Bytes)
  | [] => none
  | b :: bs => if b = x then some ([], bs) else
      match splitFirst x bs with
      | some (p, q) => some (b :: p, q)
      | none => none

end Victron
