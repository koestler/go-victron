import Victron.Model.Frame
import Victron.Proofs.Hex
/- pure facts about `parseResponse`, `getStep` and what the Get loop makes of a response body (`verdict`) -/
namespace Victron

/-- Exactly what `VeCommand` accepts: a body `c :: digits` of at least 7 characters whose first character
    parses (as a hex nibble, anything else counting as 0) to the expected response type, followed by an
    even number of hex digits decoding to `values ++ [ck]` with type, values and check byte summing to 0x55. -/
structure ValidBody (cmd : Nat) (resp : Bytes) (values : Bytes) (ck : Nat) : Prop where
  len : 7 ≤ resp.length
  nibble : (unhexDigit (resp.headD 0)).getD 0 = responseFor cmd
  even : resp.tail.length % 2 = 0
  hex : unhex resp.tail = some (values ++ [ck])
  sum : checksum (responseFor cmd) values = ck

/-- a body of at least 7 characters decodes to at least 3 bytes: why the code's one index, the last byte, is in range -/
theorem unhex_tail_length {resp bin : Bytes} (hlen : 7 ≤ resp.length) (h : unhex resp.tail = some bin) : 3 ≤ bin.length := by
  have := (unhex_spec h).1
  rw [List.length_tail] at this; omega

/-- `parseResponse` fails with an error, or the body is valid and its payload is returned (the check byte in the spare
    capacity): the guards in the order of the code -/
theorem parseResponse_cases (cmd : Nat) (resp : Bytes) :
    parseResponse cmd resp = .err .other ∨
    ∃ values ck, ValidBody cmd resp values ck ∧ parseResponse cmd resp = .ok ⟨values, [ck]⟩ := by
  simp only [parseResponse]
  by_cases hlen : resp.length < 7
  · exact .inl (if_pos hlen)
  by_cases hnib : responseFor cmd ≠ (unhexDigit (resp.headD 0)).getD 0
  · exact .inl (by rw [if_neg hlen, if_pos hnib])
  by_cases heven : resp.tail.length % 2 ≠ 0
  · exact .inl (by rw [if_neg hlen, if_neg hnib, if_pos heven])
  rw [if_neg hlen, if_neg hnib, if_neg heven]
  cases hbin : unhex resp.tail with
  | none => exact .inl rfl
  | some bin =>
    obtain ⟨values, ck, rfl⟩ : ∃ values ck, bin = values ++ [ck] := by
      rcases List.eq_nil_or_concat bin with rfl | ⟨v, c, rfl⟩
      · exact absurd (unhex_tail_length (by omega) hbin) (by simp)
      · exact ⟨v, c, by simp⟩
    simp only [List.getLast?_concat, List.dropLast_concat]
    have hnib' := (Decidable.of_not_not hnib).symm
    by_cases hck : checksum ((unhexDigit (resp.headD 0)).getD 0) values ≠ ck
    · exact .inl (if_pos hck)
    · exact .inr ⟨values, ck, ⟨by omega, hnib', Decidable.of_not_not heven, hbin, hnib' ▸ Decidable.of_not_not hck⟩,
        if_neg hck⟩

theorem parseResponse_ne_panic (cmd : Nat) (resp : Bytes) : parseResponse cmd resp ≠ .panic := by
  rcases parseResponse_cases cmd resp with h | ⟨_, _, _, h⟩ <;> rw [h] <;> simp

theorem parseResponse_ok {cmd : Nat} {resp : Bytes} {s : Slice} (h : parseResponse cmd resp = .ok s) :
    ∃ ck, ValidBody cmd resp s.data ck := by
  rcases parseResponse_cases cmd resp with h' | ⟨values, ck, hv, h'⟩ <;> rw [h'] at h
  · cases h
  · obtain rfl := R.ok.inj h; exact ⟨ck, hv⟩

theorem ValidBody.parse {cmd : Nat} {resp values : Bytes} {ck : Nat} (hv : ValidBody cmd resp values ck) :
    parseResponse cmd resp = .ok ⟨values, [ck]⟩ := by
  simp only [parseResponse]
  rw [if_neg (by have := hv.len; omega), if_neg (fun h => h hv.nibble.symm), if_neg (fun h => h hv.even), hv.hex]
  simp only [List.getLast?_concat, List.dropLast_concat, hv.nibble]
  rw [if_neg (fun h => h hv.sum)]

theorem responseFor_lt (cmd : Nat) : responseFor cmd < 16 := by
  -- `· < 16` goes into the branches, where it compares literals (splitting the seven `if`s is forty times the work)
  simp [responseFor, apply_ite (· < 16)]

theorem ValidBody.two_le {cmd : Nat} {resp values : Bytes} {ck : Nat} (h : ValidBody cmd resp values ck) :
    2 ≤ values.length := by
  have := unhex_tail_length h.len h.hex
  simp at this; omega

theorem ValidBody.isBytes {cmd : Nat} {resp values : Bytes} {ck : Nat} (h : ValidBody cmd resp values ck) :
    IsBytes values ∧ ck < 256 := by
  have := (unhex_spec h.hex).2
  exact ⟨this.of_append_left, (this.of_append_right).head⟩

theorem ValidBody.sum55 {cmd : Nat} {resp values : Bytes} {ck : Nat} (h : ValidBody cmd resp values ck) :
    (responseFor cmd + values.sum + ck) % 256 = 0x55 := by
  have := checksum_sum (responseFor cmd) values h.isBytes.1
  rwa [h.sum] at this

theorem getStep_cons (addr a b f : Nat) (v spare : Bytes) :
    getStep addr ⟨a :: b :: f :: v, spare⟩ =
      if addr ≠ (a + 256 * b) % 65536 then .retry else
      match flagError (f % 256) with
      | some e => .fail e
      | none => .value v := by
  simp only [getStep, Slice.slice, Slice.sliceFrom, List.length_cons, leUint]
  -- the length test fails; the three slices (address, flag, value) are in range
  rw [if_neg (by omega), if_pos (by omega), if_pos (by omega), if_pos (by omega)]
  rfl

theorem getStep_short (addr : Nat) (raw : Slice) (h : raw.data.length < 3) : getStep addr raw = .retry := by
  unfold getStep; simp [h]

theorem getStep_eq (addr : Nat) (raw : Slice) :
    getStep addr raw =
      match raw.data with
      | a :: b :: f :: v =>
        if addr ≠ (a + 256 * b) % 65536 then .retry else
        match flagError (f % 256) with
        | some e => .fail e
        | none => .value v
      | _ => .retry := by
  obtain ⟨data, spare⟩ := raw
  match data with
  | a :: b :: f :: v => exact getStep_cons addr a b f v spare
  | [] | [_] | [_, _] => exact getStep_short _ _ (by simp)

theorem getStep_ne_panic (addr : Nat) (raw : Slice) : getStep addr raw ≠ .panic := by
  rw [getStep_eq]
  repeat' split
  all_goals simp

theorem flagError_none_iff (f : Nat) : flagError f = none ↔ f = 0 := by
  simp [flagError, apply_ite (· = none)]

theorem flagError_typed {flag : Nat} (hf : flag = 1 ∨ flag = 2 ∨ flag = 4) :
    flag < 256 ∧ ∃ e, flagError flag = some e ∧ e ≠ .other := by
  rcases hf with rfl | rfl | rfl <;> exact ⟨by omega, _, rfl, by simp⟩

theorem getStep_cons_value {addr a b f : Nat} {w spare v : Bytes} :
    getStep addr ⟨a :: b :: f :: w, spare⟩ = .value v ↔ addr = (a + 256 * b) % 65536 ∧ f % 256 = 0 ∧ w = v := by
  rw [getStep_cons, ← flagError_none_iff]
  by_cases ha : addr ≠ (a + 256 * b) % 65536
  · simp [ha]
  · rw [if_neg ha]
    cases flagError (f % 256) <;> simp [Decidable.of_not_not ha]

theorem getStep_value {addr : Nat} {raw : Slice} {v : Bytes} (hb : IsBytes raw.data)
    (h : getStep addr raw = .value v) : raw.data = [addr % 256, addr / 256 % 256, 0] ++ v := by
  obtain ⟨data, spare⟩ := raw
  match data, hb with
  | a :: b :: f :: w, hb =>
    obtain ⟨rfl, hf, rfl⟩ := getStep_cons_value.mp h
    have ha := hb a (by simp); have hb' := hb b (by simp); have hf' := hb f (by simp)
    simp only [List.cons_append, List.nil_append, List.cons.injEq, and_true]
    omega
  | [], _ | [_], _ | [_, _], _ => rw [getStep_short _ _ (by simp)] at h; cases h

/-- body of a well-formed response of type `n` carrying `values` -/
def respBody (n : Nat) (values : Bytes) : Bytes := hexDigit n :: hexBytes (values ++ [checksum n values])

theorem getResponseBody_eq (addr flag : Nat) (payload : Bytes) :
    getResponseBody addr flag payload = respBody 7 ([addr % 256, addr / 256 % 256, flag] ++ payload) := by
  simp [getResponseBody, respBody, hexBytes]

theorem parseResponse_respBody (cmd : Nat) {values : Bytes} (hv : IsBytes values) (hl : 2 ≤ values.length) :
    parseResponse cmd (respBody (responseFor cmd) values) = .ok ⟨values, [checksum (responseFor cmd) values]⟩ := by
  refine ValidBody.parse ⟨?_, ?_, ?_, ?_, rfl⟩
  · simp [respBody, hexBytes_length]; omega
  · simp [respBody, unhexDigit_hexDigit (responseFor_lt cmd)]
  · simp [respBody, hexBytes_length]
  · simp only [respBody, List.tail_cons]; exact unhex_hexBytes (hv.append_checksum _)

/-- a response body holds no '\n' and is not taken for an asynchronous frame (`n ≠ 10`: the type nibble 0xA prints as 'A',
    their marker) -/
theorem respBody_shape {n : Nat} (h10 : n ≠ 10) {values : Bytes} (hv : IsBytes values) :
    10 ∉ respBody n values ∧ ¬ ((respBody n values).headD 0 = 65 ∧ respBody n values ≠ []) := by
  have hd : hexDigit n ≠ 10 ∧ hexDigit n ≠ 65 := by unfold hexDigit; split <;> omega
  refine ⟨?_, by simp [respBody, hd.2]⟩
  simp only [respBody, List.mem_cons, not_or]
  exact ⟨hd.1.symm, not_mem_hexBytes (hv.append_checksum n) (by decide)⟩

theorem isBytes_addr_flag {addr flag : Nat} {payload : Bytes} (hflag : flag < 256) (hp : IsBytes payload) :
    IsBytes ([addr % 256, addr / 256 % 256, flag] ++ payload) :=
  (encodeLE_isBytes 2 addr).append (IsBytes.cons hflag hp)

theorem getResponseBody_shape (addr : Nat) {flag : Nat} (hflag : flag < 256) {payload : Bytes} (hp : IsBytes payload) :
    10 ∉ getResponseBody addr flag payload ∧
    ¬ ((getResponseBody addr flag payload).headD 0 = 65 ∧ getResponseBody addr flag payload ≠ []) := by
  rw [getResponseBody_eq]
  exact respBody_shape (by omega) (isBytes_addr_flag hflag hp)

theorem parseResponse_getResponseBody (addr flag : Nat) (hflag : flag < 256) (payload : Bytes) (hp : IsBytes payload) :
    parseResponse 7 (getResponseBody addr flag payload) =
      .ok ⟨[addr % 256, addr / 256 % 256, flag] ++ payload, [checksum 7 ([addr % 256, addr / 256 % 256, flag] ++ payload)]⟩ := by
  rw [getResponseBody_eq]
  exact parseResponse_respBody 7 (isBytes_addr_flag hflag hp) (by simp)

theorem getStep_response (addr a : Nat) (ha : a < 65536) (flag : Nat) (hflag : flag < 256) (payload spare : Bytes) :
    getStep addr ⟨[a % 256, a / 256 % 256, flag] ++ payload, spare⟩ =
      if addr ≠ a then .retry else
      match flagError flag with
      | some e => .fail e
      | none => .value payload := by
  simp only [List.cons_append, List.nil_append]
  rw [getStep_cons, Nat.mod_eq_of_lt hflag, show (a % 256 + 256 * (a / 256 % 256)) % 65536 = a by omega]

theorem append_frameOf (l body rest : Bytes) : l ++ frameOf body ++ rest = l ++ 58 :: body ++ 10 :: rest := by
  simp [frameOf]

/-- what one attempt means for the retry loop: go on, or end the call with this result -/
inductive Outcome where
  | retry
  | done (r : R Bytes)
  deriving Repr, DecidableEq

/-- the loop body of `VeCommandGet` once `sendReceive` has returned: the part that does no I/O -/
def verdict (addr : Nat) : Option Bytes → Outcome
  | none => .retry
  | some body =>
    match parseResponse 7 body with
    | .panic => .done .panic
    | .err _ => .retry
    | .ok raw =>
      match getStep addr raw with
      | .retry => .retry
      | .fail e => .done (.err e)
      | .value v => .done (.ok v)
      | .panic => .done .panic

theorem verdict_done {addr : Nat} {o : Option Bytes} {r : R Bytes} (h : verdict addr o = .done r) : ∃ body, o = some body := by
  cases o with
  | none => cases h
  | some body => exact ⟨body, rfl⟩

theorem verdict_ne_panic (addr : Nat) (o : Option Bytes) : verdict addr o ≠ .done .panic := by
  cases o with
  | none => simp [verdict]
  | some body =>
    rw [verdict]
    have h1 := parseResponse_ne_panic 7 body
    split
    · simp_all
    · simp
    · have h2 := getStep_ne_panic addr
      split <;> simp_all

theorem verdict_value {addr : Nat} {body v : Bytes} (h : verdict addr (some body) = .done (.ok v)) :
    ∃ ck, ValidBody 7 body ([addr % 256, addr / 256 % 256, 0] ++ v) ck := by
  rw [verdict] at h
  split at h <;> try (simp at h; done)
  rename_i raw hp
  obtain ⟨ck, hv⟩ := parseResponse_ok hp
  split at h <;> try (simp at h; done)
  rename_i w hg
  simp only [Outcome.done.injEq, R.ok.injEq] at h
  subst h
  rw [getStep_value hv.isBytes.1 hg] at hv
  exact ⟨ck, hv⟩

/-- a well-formed response is passed over when it is for another register than the one asked for, and decides the call
    otherwise, whatever its flag -/
theorem verdict_response (addr a : Nat) (ha : a < 65536) {flag : Nat} (hflag : flag < 256) {payload : Bytes} (hp : IsBytes payload) :
    verdict addr (some (getResponseBody a flag payload)) =
      if addr ≠ a then .retry else .done (match flagError flag with | some e => .err e | none => .ok payload) := by
  rw [verdict, parseResponse_getResponseBody a flag hflag payload hp]
  simp only
  rw [getStep_response addr a ha flag hflag]
  by_cases hne : addr ≠ a
  · rw [if_pos hne, if_pos hne]
  · rw [if_neg hne, if_neg hne]; cases flagError flag <;> rfl

/-- a body the Get loop does not accept: `VeCommand` fails on it, or the loop `continue`s -/
def Rejected (addr : Nat) (body : Bytes) : Prop :=
  match parseResponse 7 body with
  | .ok raw => getStep addr raw = .retry
  | .err _ => True
  | .panic => False

instance (addr : Nat) (body : Bytes) : Decidable (Rejected addr body) := by
  unfold Rejected; split <;> infer_instance

theorem rejected_iff {addr : Nat} {body : Bytes} : Rejected addr body ↔ verdict addr (some body) = .retry := by
  unfold Rejected; rw [verdict]
  cases parseResponse 7 body with
  | ok raw => simp only; cases getStep addr raw <;> simp
  | _ => simp

theorem rejected_other_register (addr other : Nat) (hother : other < 65536) (hne : addr ≠ other)
    (flag : Nat) (hflag : flag < 256) (payload : Bytes) (hp : IsBytes payload) :
    Rejected addr (getResponseBody other flag payload) :=
  rejected_iff.mpr (by rw [verdict_response addr other hother hflag hp, if_pos hne])

theorem rejected_of_not_ok (addr : Nat) (body : Bytes) (h : ∀ s, parseResponse 7 body ≠ .ok s) : Rejected addr body := by
  unfold Rejected
  cases hp : parseResponse 7 body with
  | panic => exact absurd hp (parseResponse_ne_panic 7 body)
  | err e => trivial
  | ok raw => exact absurd hp (h raw)

/-- a frame of another response type (Done, Unknown, Error, Ping, Set, the unassigned nibbles), intact or not, is rejected -/
theorem rejected_wrong_type (addr : Nat) (body : Bytes) (h : (unhexDigit (body.headD 0)).getD 0 ≠ responseFor 7) :
    Rejected addr body := by
  apply rejected_of_not_ok
  intro s hp
  obtain ⟨ck, hv⟩ := parseResponse_ok hp
  exact h hv.nibble

end Victron
