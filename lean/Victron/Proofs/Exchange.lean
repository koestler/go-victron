import Victron.Proofs.Recv
/-
  One exchange (`sendReceive`: optional flush, one Write, the scanner) and the bookkeeping every longer stretch of
  activity is summarised by (`Vd.Run`): retries, typed calls and whole histories are chains of exchanges, and what the
  properties say about frames written, reads, log buffers and the origin of pending bytes is read off the summary.
-/
namespace Victron

/-- `frames` were written (oldest first) and, with the I/O logger on, appended to the tx buffer -/
structure Vd.TxInv (σ σ' : Vd) (frames : List Bytes) : Prop where
  written : σ'.port.written = frames.reverse ++ σ.port.written
  txBuf : σ'.txBuf = if σ.ioLog then σ.txBuf ++ frames.flatten else σ.txBuf
  ioLog : σ'.ioLog = σ.ioLog
  lines : σ'.lines = σ.lines

theorem Vd.TxInv.nil {σ σ' : Vd} (hw : σ'.port.written = σ.port.written) (hc : σ.CfgEq σ') : σ.TxInv σ' [] :=
  ⟨by simp [hw], by rw [hc.2.2.1]; split <;> simp, hc.1, hc.2.2.2⟩

theorem Vd.TxInv.trans {σ σ' σ'' : Vd} {f g : List Bytes} (h1 : σ.TxInv σ' f) (h2 : σ'.TxInv σ'' g) : σ.TxInv σ'' (f ++ g) := by
  obtain ⟨a1, a2, a3, a4⟩ := h1
  obtain ⟨b1, b2, b3, b4⟩ := h2
  refine ⟨by rw [b1, a1]; simp, ?_, b3.trans a3, b4.trans a4⟩
  rw [b2, a3, a2]
  cases σ.ioLog <;> simp

/-- Summary of a stretch of the driver's activity leading from `σ` to `σ'`: `w` Write calls, of which those of `frames`
    succeeded; at most `e` Reads that delivered nothing, and the potential grew by no more than those; what is pending or
    still to come is a subsequence of what was pending or to come before — bytes are dropped, never invented or reordered. -/
structure Vd.Run (σ σ' : Vd) (w e : Nat) (frames : List Bytes) : Prop where
  nW : σ'.port.nW = σ.port.nW + w
  tx : σ.TxInv σ' frames
  script : σ.port.SameScript σ'.port
  nE : σ'.port.nE ≤ σ.port.nE + e
  pot : σ'.port.pot + σ.port.nE ≤ σ.port.pot + σ'.port.nE
  supply : (σ'.pending ++ σ'.port.future).Sublist (σ.pending ++ σ.port.future)

theorem Vd.Run.refl (σ : Vd) : σ.Run σ 0 0 [] :=
  ⟨rfl, .nil rfl (.refl σ), .refl _, Nat.le_refl _, Nat.le_refl _, .refl _⟩

theorem Vd.Run.trans {σ σ₁ σ₂ : Vd} {w₁ w₂ e₁ e₂ : Nat} {f₁ f₂ : List Bytes}
    (h1 : σ.Run σ₁ w₁ e₁ f₁) (h2 : σ₁.Run σ₂ w₂ e₂ f₂) : σ.Run σ₂ (w₁ + w₂) (e₁ + e₂) (f₁ ++ f₂) where
  nW := by rw [h2.nW, h1.nW]; omega
  tx := h1.tx.trans h2.tx
  script := h1.script.trans h2.script
  nE := by have := h1.nE; have := h2.nE; omega
  pot := by have := h1.pot; have := h2.pot; omega
  supply := h2.supply.trans h1.supply

/-- copies of one frame: what was written reads the same in either order -/
theorem Vd.Run.written {σ σ' : Vd} {w e k : Nat} {f : Bytes} (h : σ.Run σ' w e (List.replicate k f)) :
    σ'.port.written = List.replicate k f ++ σ.port.written := by
  rw [h.tx.written, List.reverse_replicate]

theorem Vd.Run.weaken {σ σ' : Vd} {w e e' : Nat} {f : List Bytes} (h : σ.Run σ' w e f) (he : e ≤ e') : σ.Run σ' w e' f :=
  { h with nE := Nat.le_trans h.nE (Nat.add_le_add_left he _) }

theorem Vd.Recv.run {σ σ' : Vd} {g : Bool} (h : σ.Recv σ' g) : σ.Run σ' 0 1 [] where
  nW := h.port.nW
  tx := .nil h.port.written h.cfg
  script := h.port.script
  nE := by have := h.nE; split at this <;> omega
  pot := h.pot
  supply := by rw [h.port.future]; exact h.suffix.sublist.append (.refl _)

/-- a flush empties the reader's buffer and, unless it fails, the queue: credit and pending bytes only shrink -/
theorem Vd.flushReceiver_run (σ : Vd) : σ.Run σ.flushReceiver 0 0 [] := by
  have hw : σ.port.WEq σ.flushReceiver.port := σ.port.flush_weq
  have hs : σ.flushReceiver.pending <:+ σ.pending ∧ σ.flushReceiver.port.nE = σ.port.nE ∧
      σ.flushReceiver.port.pot ≤ σ.port.pot := by
    rcases σ.port.flush_cases with h | h <;> simp [Vd.flushReceiver, h, Vd.pending, Port.pot, Port.credit]
  refine ⟨hw.nW, .nil hw.written (.refl σ), hw.script, Nat.le_of_eq hs.2.1, ?_, ?_⟩
  · rw [hs.2.1]; exact Nat.add_le_add_right hs.2.2 _
  · rw [hw.future]; exact hs.1.sublist.append (.refl _)

theorem Vd.write_eq (σ : Vd) (b : Bytes) :
    σ.write b = ({ σ with port := (σ.port.write b).1,
                          txBuf := if (σ.port.write b).2 && σ.ioLog then σ.txBuf ++ b else σ.txBuf }, (σ.port.write b).2) := by
  unfold Vd.write
  rcases σ.port.write_cases b with h | h <;> rw [h] <;> simp

/-- One Write call. `List.replicate ok.toNat b` is how "one copy of `b` if the Write succeeded, none otherwise" is
    written here and below, so that the frames of a run of exchanges add up to `List.replicate k frame`. A failed Write
    loses the reply scripted for it: credit and supply only shrink. -/
theorem Vd.write_run (σ : Vd) (b : Bytes) : σ.Run (σ.write b).1 1 0 (List.replicate (σ.write b).2.toNat b) := by
  rw [Vd.write_eq]
  rcases σ.port.write_cases b with h | h <;> simp only [h]
  · -- the Write failed
    refine ⟨rfl, .nil rfl ⟨rfl, rfl, by simp, rfl⟩, ⟨rfl, rfl, rfl, rfl⟩, Nat.le_refl _, ?_, ?_⟩
    · have := σ.port.credit_eq; simp only [Port.pot, Port.credit] at this ⊢; omega
    · rw [σ.port.future_eq]; exact (List.Sublist.refl _).append (List.sublist_append_right _ _)
  · -- the Write went through
    refine ⟨rfl, ⟨by simp, by cases σ.ioLog <;> simp, rfl, rfl⟩, ⟨rfl, rfl, rfl, rfl⟩, Nat.le_refl _, ?_, ?_⟩
    · have := σ.port.credit_eq; simp only [Port.pot, Port.credit, chunkCount, List.length_append] at this ⊢; omega
    · rw [σ.port.future_eq]; simp [Vd.pending, Port.reply, Port.future, List.flatten_filter_not_isEmpty]

/-- the state right after an attempt's command frame was handed to the port -/
def Vd.afterSend (σ : Vd) (idle : Bool) (cmd : Nat) (data : Bytes) : Vd :=
  ((if idle then σ.flushReceiver else σ).write (txFrame cmd data)).1

/-- whether that Write succeeded -/
def Vd.sendOk (σ : Vd) (idle : Bool) (cmd : Nat) (data : Bytes) : Bool :=
  ((if idle then σ.flushReceiver else σ).write (txFrame cmd data)).2

theorem Vd.sendReceive_eq (σ : Vd) (idle : Bool) (cmd : Nat) (data : Bytes) :
    σ.sendReceive idle cmd data =
      if σ.sendOk idle cmd data then (σ.afterSend idle cmd data).receiveResponse else (σ.afterSend idle cmd data, none) := by
  unfold Vd.sendReceive Vd.sendOk Vd.afterSend
  simp only

theorem Vd.afterSend_run (σ : Vd) (idle : Bool) (cmd : Nat) (data : Bytes) :
    σ.Run (σ.afterSend idle cmd data) 1 0 (List.replicate (σ.sendOk idle cmd data).toNat (txFrame cmd data)) := by
  have h0 : σ.Run (if idle then σ.flushReceiver else σ) 0 0 [] := by
    split
    · exact σ.flushReceiver_run
    · exact .refl σ
  exact h0.trans (Vd.write_run _ _)

theorem Vd.sendReceive_run (σ : Vd) (idle : Bool) (cmd : Nat) (data : Bytes) :
    σ.Run (σ.sendReceive idle cmd data).1 1 1 (List.replicate (σ.sendOk idle cmd data).toNat (txFrame cmd data)) := by
  have h := σ.afterSend_run idle cmd data
  rw [Vd.sendReceive_eq]
  split
  · have := h.trans (σ.afterSend idle cmd data).receiveResponse_recv.run
    rwa [List.append_nil] at this
  · exact h.weaken (Nat.le_succ 0)

/-- What a call of the API amounts to: `n` exchanges, between one and `numbTries` = 8, of which `k` handed `frame` to the
    port. (`Run σ σ' n n`: an exchange is one Write call and at most one Read that delivers nothing.) -/
def Vd.Access (σ σ' : Vd) (frame : Bytes) : Prop :=
  ∃ n k, n ≤ 8 ∧ 0 < n ∧ k ≤ n ∧ σ.Run σ' n n (List.replicate k frame)

theorem Vd.Access.nW_le {σ σ' : Vd} {f : Bytes} (h : σ.Access σ' f) : σ'.port.nW ≤ σ.port.nW + 8 := by
  obtain ⟨n, _, hn, _, _, hr⟩ := h
  rw [hr.nW]; omega

theorem Vd.Access.nE_le {σ σ' : Vd} {f : Bytes} (h : σ.Access σ' f) : σ'.port.nE ≤ σ.port.nE + 8 := by
  obtain ⟨n, _, hn, _, _, hr⟩ := h
  have := hr.nE; omega

theorem Vd.sendReceive_access (σ : Vd) (idle : Bool) (cmd : Nat) (data : Bytes) :
    σ.Access (σ.sendReceive idle cmd data).1 (txFrame cmd data) :=
  ⟨1, _, by omega, by omega, Bool.toNat_le _, σ.sendReceive_run idle cmd data⟩

theorem Vd.sendReceive_some {σ σ' : Vd} {idle : Bool} {cmd : Nat} {data body : Bytes}
    (h : σ.sendReceive idle cmd data = (σ', some body)) :
    σ.sendOk idle cmd data = true ∧ (σ.afterSend idle cmd data).receiveResponse = (σ', some body) := by
  rw [Vd.sendReceive_eq] at h
  split at h
  · rename_i hok; exact ⟨hok, h⟩
  · cases h

theorem Vd.sendReceive_found {σ σ' : Vd} {idle : Bool} {cmd : Nat} {data body : Bytes}
    (h : σ.sendReceive idle cmd data = (σ', some body)) :
    ∃ skipped, (σ.afterSend idle cmd data).pending = skipped ++ 58 :: body ++ 10 :: σ'.pending ∧ 10 ∉ body := by
  obtain ⟨segs, noise, _, _, hb, _, _, t⟩ := Vd.receiveResponseF_some (Vd.sendReceive_some h).2
  exact ⟨(segs.map asyncSeg).flatten ++ noise, by rw [t.pending]; simp, hb⟩

theorem Vd.afterSend_clean (σ : Vd) (idle : Bool) (cmd : Nat) (data : Bytes) (hc : σ.port.Clean) :
    σ.sendOk idle cmd data = true ∧
    (σ.afterSend idle cmd data).pending = (if idle then [] else σ.pending) ++ σ.port.reply σ.port.nW := by
  obtain ⟨hw, hr, hf⟩ := hc
  unfold Vd.sendOk Vd.afterSend Vd.write Port.write Port.reply
  cases idle <;> simp [hw, hf, Vd.pending, List.flatten_filter_not_isEmpty, Vd.flushReceiver, Port.flush]

/-- **When the command goes out and no read fails, an exchange is a function of the bytes** pending once the command
    was sent: what it returns and what it leaves pending is what the scanner makes of them, however they are chunked. -/
theorem Vd.sendReceive_scan (σ : Vd) (idle : Bool) (cmd : Nat) (data : Bytes)
    (hok : σ.sendOk idle cmd data = true) (hrf : σ.port.rFail = []) :
    (σ.sendReceive idle cmd data).2 = (scanAll (σ.afterSend idle cmd data).pending).1 ∧
    (σ.sendReceive idle cmd data).1.pending = (scanAll (σ.afterSend idle cmd data).pending).2 := by
  rw [Vd.sendReceive_eq, hok, if_pos rfl]
  exact Vd.receiveResponse_clean ((σ.afterSend_run idle cmd data).script.rFail.trans hrf)

/-- **An exchange on a port without faults** is a function of the bytes it gets to see: those kept pending (none after
    an idle flush) followed by the reply to this command. The next exchange finds the port in the same condition. -/
theorem Vd.sendReceive_clean (σ : Vd) (idle : Bool) (cmd : Nat) (data : Bytes) (hc : σ.port.Clean) :
    (σ.sendReceive idle cmd data).2 = (scanAll ((if idle then [] else σ.pending) ++ σ.port.reply σ.port.nW)).1 ∧
    (σ.sendReceive idle cmd data).1.pending = (scanAll ((if idle then [] else σ.pending) ++ σ.port.reply σ.port.nW)).2 ∧
    (σ.sendReceive idle cmd data).1.port.Clean ∧
    (σ.sendReceive idle cmd data).1.port.reply = σ.port.reply ∧
    (σ.sendReceive idle cmd data).1.port.nW = σ.port.nW + 1 := by
  obtain ⟨hok, hp⟩ := σ.afterSend_clean idle cmd data hc
  obtain ⟨h1, h2⟩ := σ.sendReceive_scan idle cmd data hok hc.rFail
  have hr := σ.sendReceive_run idle cmd data
  rw [hp] at h1 h2
  exact ⟨h1, h2, hr.script.clean hc, hr.script.reply, hr.nW⟩

end Victron
