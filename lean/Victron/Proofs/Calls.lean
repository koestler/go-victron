import Victron.Proofs.Loop
/-
  The calls of the driver's public API. Each is a run of at most eight exchanges of one frame followed, for the typed
  calls, by `ioLoggerLineEnd`; histories of calls on one driver object are folds of that.
  `C06.Call`, `C06.doCall`, `C06.history`, `C03.frameOfCall` and `C18.isTyped` are named after the properties whose
  statements speak of them (Props/C03, C06, C18); they sit here because all three need them.
-/
namespace Victron

theorem Vd.lineEnd_port (σ : Vd) : σ.lineEnd.port = σ.port := by
  unfold Vd.lineEnd; split <;> rfl

theorem Vd.lineEnd_pending (σ : Vd) : σ.lineEnd.pending = σ.pending := by
  unfold Vd.lineEnd; split <;> rfl

theorem Vd.lineEnd_on {σ : Vd} (h : σ.ioLog = true) :
    σ.lineEnd = { σ with lines := ⟨σ.txBuf, σ.rxBuf⟩ :: σ.lines, txBuf := [], rxBuf := [] } := by
  unfold Vd.lineEnd; rw [if_pos h]

theorem Vd.lineEnd_off {σ : Vd} (h : σ.ioLog = false) : σ.lineEnd = σ := by
  unfold Vd.lineEnd; rw [if_neg (by simp [h])]

theorem Vd.lineEnd_ioLog (σ : Vd) : σ.lineEnd.ioLog = σ.ioLog := by
  unfold Vd.lineEnd; split <;> rfl

theorem Vd.lineEnd_lines_length (σ : Vd) : σ.lineEnd.lines.length = σ.lines.length + (if σ.ioLog then 1 else 0) := by
  unfold Vd.lineEnd; cases σ.ioLog <;> simp

theorem R.map'_eq_ok {α β} {f : α → β} {r : R α} {b : β} (h : r.map' f = .ok b) : ∃ a, r = .ok a ∧ f a = b := by
  cases r <;> simp [R.map'] at h; exact ⟨_, rfl, h⟩

theorem R.bind_eq_ok {α β} {f : α → R β} {r : R α} {b : β} (h : r.bind f = .ok b) : ∃ a, r = .ok a ∧ f a = .ok b := by
  cases r <;> simp [R.bind] at h; exact ⟨_, rfl, h⟩

theorem R.map'_ne_panic {α β} (f : α → β) {r : R α} (h : r ≠ .panic) : r.map' f ≠ .panic := by
  cases r <;> simp_all [R.map']

theorem R.bind_ne_panic {α β} {f : α → R β} {r : R α} (hr : r ≠ .panic) (hf : ∀ a, r = .ok a → f a ≠ .panic) :
    r.bind f ≠ .panic := by
  cases r with
  | ok a => exact hf a rfl
  | err e => simp [R.bind]
  | panic => exact absurd rfl hr

theorem R.isPanic_eq_false {α} {r : R α} (h : r ≠ .panic) : r.isPanic = false := by
  cases r <;> simp_all [R.isPanic]

theorem Vd.ping_eq (σ : Vd) (idle : Bool) :
    σ.ping idle = ((σ.sendReceive idle 1 []).1.lineEnd,
      match (σ.sendReceive idle 1 []).2 with | none => .err .other | some _ => .ok ()) := rfl

theorem Vd.getDeviceId_eq (σ : Vd) (idle : Bool) :
    σ.getDeviceId idle = ((σ.sendReceive idle 4 []).1.lineEnd,
      match (σ.sendReceive idle 4 []).2 with
      | none => .err .other
      | some resp => (parseResponse 4 resp).bind fun raw =>
          if raw.data.length < 2 then .panic else .ok (leNat (raw.data.take 2))) := by
  unfold Vd.getDeviceId
  rw [Vd.veCommand_eq]
  simp only [show paramFor 4 0 = [] from rfl]
  cases (σ.sendReceive idle 4 []).2 with
  | none => rfl
  | some resp => simp only; cases parseResponse 4 resp <;> rfl

theorem Vd.getUint_eq (σ : Vd) (idles : List Bool) (addr : Nat) :
    σ.getUint idles addr = ((σ.veCommandGet idles addr).1.lineEnd, (σ.veCommandGet idles addr).2.map' leUint) := rfl

theorem Vd.getInt_eq (σ : Vd) (idles : List Bool) (addr : Nat) :
    σ.getInt idles addr = ((σ.veCommandGet idles addr).1.lineEnd, (σ.veCommandGet idles addr).2.bind leInt) := rfl

theorem Vd.getString_eq (σ : Vd) (idles : List Bool) (addr : Nat) :
    σ.getString idles addr = ((σ.veCommandGet idles addr).1.lineEnd, (σ.veCommandGet idles addr).2.map' trimNul) := rfl

end Victron

namespace Victron.C06
open Victron

/-- one call of the driver's public API -/
inductive Call where
  | ping (idle : Bool)
  | deviceId (idle : Bool)
  | command (idle : Bool) (cmd addr : Nat)
  | getRaw (idles : List Bool) (addr : Nat)
  | getUint (idles : List Bool) (addr : Nat)
  | getInt (idles : List Bool) (addr : Nat)
  | getString (idles : List Bool) (addr : Nat)

/-- the state after the call and whether it panicked -/
def doCall (σ : Vd) : Call → Vd × Bool
  | .ping i => let r := σ.ping i; (r.1, r.2.isPanic)
  | .deviceId i => let r := σ.getDeviceId i; (r.1, r.2.isPanic)
  | .command i c a => let r := σ.veCommand i c a; (r.1, r.2.isPanic)
  | .getRaw is a => let r := σ.veCommandGet is a; (r.1, r.2.isPanic)
  | .getUint is a => let r := σ.getUint is a; (r.1, r.2.isPanic)
  | .getInt is a => let r := σ.getInt is a; (r.1, r.2.isPanic)
  | .getString is a => let r := σ.getString is a; (r.1, r.2.isPanic)

def histStep (acc : Vd × List Bool) (c : Call) : Vd × List Bool :=
  ((doCall acc.1 c).1, acc.2 ++ [(doCall acc.1 c).2])

/-- any number of calls on one driver object: the state after all of them and, per call in order, whether it panicked -/
def history (σ : Vd) (cs : List Call) : Vd × List Bool := cs.foldl histStep (σ, [])

end Victron.C06

namespace Victron
open C06

/-- the one frame a call of the public API hands to the port (once per attempt) -/
def C03.frameOfCall : Call → Bytes
  | .ping _ => tx 1 0
  | .deviceId _ => tx 4 0
  | .command _ c a => tx c a
  | .getRaw _ a | .getUint _ a | .getInt _ a | .getString _ a => tx 7 a

/-- the typed calls are the ones that end with `ioLoggerLineEnd` -/
def C18.isTyped : Call → Bool
  | .ping _ | .deviceId _ | .getUint _ _ | .getInt _ _ | .getString _ _ => true
  | .command _ _ _ | .getRaw _ _ => false

/-- **Every call is between one and eight exchanges of its one frame, then `lineEnd` iff it is a typed call.** -/
theorem doCall_access (σ : Vd) (c : Call) :
    ∃ σ1, σ.Access σ1 (C03.frameOfCall c) ∧ (doCall σ c).1 = if C18.isTyped c then σ1.lineEnd else σ1 := by
  cases c with
  | ping i => exact ⟨_, σ.sendReceive_access i 1 [], rfl⟩
  | deviceId i => exact ⟨_, σ.sendReceive_access i 4 [], by simp [doCall, Vd.getDeviceId_eq, C18.isTyped]⟩
  | command i cmd a =>
    exact ⟨_, σ.sendReceive_access i cmd (paramFor cmd a), by simp [doCall, Vd.veCommand_eq, C18.isTyped]⟩
  | getRaw is a | getUint is a | getInt is a | getString is a => exact ⟨_, σ.veCommandGet_access is a, rfl⟩

theorem history_nil (σ : Vd) : history σ [] = (σ, []) := rfl

/-- a history call by call (the model folds from the left with an accumulator) -/
theorem history_cons (σ : Vd) (c : Call) (cs : List Call) :
    history σ (c :: cs) = ((history (doCall σ c).1 cs).1, (doCall σ c).2 :: (history (doCall σ c).1 cs).2) := by
  have gen : ∀ (cs : List Call) (σ : Vd) (acc : List Bool),
      cs.foldl histStep (σ, acc) = ((cs.foldl histStep (σ, [])).1, acc ++ (cs.foldl histStep (σ, [])).2) := by
    intro cs
    induction cs with
    | nil => intro σ acc; simp
    | cons c cs ih =>
      intro σ acc; simp only [List.foldl_cons, histStep]
      -- both folds, from `acc ++ [b]` and from `[] ++ [b]`, in terms of the fold from `[]`
      rw [ih, ih _ ([] ++ _)]; simp
  simp only [history, List.foldl_cons, histStep]
  rw [gen]; rfl

end Victron
