import Victron.Proofs.Loop
/- the retry loop against a whole device stream: one rejected frame, or one silence, is consumed per attempt -/
namespace Victron

/-- what one attempt consumes without success: noise and async frames, then one complete non-async frame -/
structure Junk where
  segs  : List (Bytes × Bytes) := []
  noise : Bytes := []
  body  : Bytes

def Junk.bytes (j : Junk) : Bytes := (j.segs.map asyncSeg).flatten ++ j.noise ++ 58 :: j.body ++ [10]

structure Junk.Ok (addr : Nat) (j : Junk) : Prop where
  segs  : ∀ s ∈ j.segs, 58 ∉ s.1 ∧ 10 ∉ s.2
  noise : 58 ∉ j.noise
  body  : 10 ∉ j.body
  notA  : ¬ (j.body.headD 0 = 65 ∧ j.body ≠ [])
  rej   : Rejected addr j.body

/-- what an attempt can use up without success: a rejected complete frame, or — silence — pending bytes that
    hold no complete non-async frame (nothing at all, text noise, async frames, the beginning of a frame) -/
inductive Waste where
  | frame (j : Junk)
  | silence (segs : List (Bytes × Bytes)) (tail : Bytes)

def Waste.bytes : Waste → Bytes
  | .frame j => j.bytes
  | .silence segs tail => (segs.map asyncSeg).flatten ++ tail

def Waste.Ok (addr : Nat) : Waste → Prop
  | .frame j => j.Ok addr
  | .silence segs tail => (∀ s ∈ segs, 58 ∉ s.1 ∧ 10 ∉ s.2) ∧ Partial tail

/-- after silence the reader's buffer is discarded: nothing is left over -/
def Waste.Leaves : Waste → Bytes → Prop
  | .frame _, _ => True
  | .silence _ _, x => x = []

/-- `Feeds rep k pend ws i fin`: with `pend` pending before the command of attempt `k` is written (dropped
    if that attempt comes after 100 ms of idleness: the receiver is flushed) and `rep k` arriving in answer to
    it, the stream splits as one wasted unit per attempt, then `fin` at an attempt with idle flag `i`. -/
def Feeds (rep : Nat → Bytes) : Nat → Bytes → List (Bool × Waste) → Bool → Bytes → Prop
  | k, pend, [], i, fin => (if i then [] else pend) ++ rep k = fin
  | k, pend, w :: ws, i, fin =>
    ∃ x, (if w.1 then [] else pend) ++ rep k = w.2.bytes ++ x ∧ w.2.Leaves x ∧ Feeds rep (k + 1) x ws i fin

theorem Waste.scanAll_retry {addr : Nat} {w : Waste} (hwo : w.Ok addr) {x : Bytes} (hl : w.Leaves x) :
    verdict addr (scanAll (w.bytes ++ x)).1 = .retry ∧ (scanAll (w.bytes ++ x)).2 = x := by
  cases w with
  | frame j =>
    rw [Waste.bytes, Junk.bytes, List.append_assoc _ [10], List.singleton_append,
      scanAll_skip j.segs j.noise j.body x hwo.segs hwo.noise hwo.body hwo.notA]
    exact ⟨rejected_iff.mp hwo.rej, rfl⟩
  | silence segs tail =>
    cases hl
    rw [Waste.bytes, List.append_nil, scanAll_silence segs tail hwo.1 hwo.2]
    exact ⟨rfl, rfl⟩

/-- a complete valid response for another register makes a well-formed junk unit -/
theorem Junk.ok_other_register (addr other : Nat) (hother : other < 65536) (hne : addr ≠ other)
    (flag : Nat) (hflag : flag < 256) (payload : Bytes) (hp : IsBytes payload)
    (segs : List (Bytes × Bytes)) (noise : Bytes) (hsegs : ∀ s ∈ segs, 58 ∉ s.1 ∧ 10 ∉ s.2) (hnoise : 58 ∉ noise) :
    Junk.Ok addr ⟨segs, noise, getResponseBody other flag payload⟩ := by
  obtain ⟨hnl, hA⟩ := getResponseBody_shape other hflag hp
  exact ⟨hsegs, hnoise, hnl, hA, rejected_other_register addr other hother hne flag hflag payload hp⟩

theorem Vd.attempt_waste (σ : Vd) (addr : Nat) {w : Bool × Waste} {ws : List (Bool × Waste)} {i : Bool} {fin : Bytes}
    (hwo : w.2.Ok addr) (hc : σ.port.Clean) (hfeed : Feeds σ.port.reply σ.port.nW σ.pending (w :: ws) i fin) :
    (σ.attempt w.1 addr).2 = .retry ∧ (σ.attempt w.1 addr).1.port.Clean ∧
    Feeds (σ.attempt w.1 addr).1.port.reply (σ.attempt w.1 addr).1.port.nW (σ.attempt w.1 addr).1.pending ws i fin := by
  obtain ⟨x, hx, hl, hfeed'⟩ := hfeed
  obtain ⟨h1, h2, hc', hrep, hnW⟩ := σ.sendReceive_clean w.1 7 (paramFor 7 addr) hc
  obtain ⟨g1, g2⟩ := Waste.scanAll_retry hwo hl
  rw [hx] at h1 h2
  rw [Vd.attempt_eq, h1]
  exact ⟨g1, hc', by rw [hrep, hnW, h2, g2]; exact hfeed'⟩

theorem Vd.afterRetries_stream (ws : List (Bool × Waste)) (i : Bool) (σ : Vd) (addr : Nat) (hws : ∀ w ∈ ws, w.2.Ok addr)
    (fin : Bytes) (hc : σ.port.Clean) (hfeed : Feeds σ.port.reply σ.port.nW σ.pending ws i fin) :
    ∃ σk, Vd.afterRetries (ws.map (·.1)) σ addr = some σk ∧ σk.port.Clean ∧
      (if i then [] else σk.pending) ++ σk.port.reply σk.port.nW = fin := by
  induction ws generalizing σ with
  | nil => exact ⟨σ, rfl, hc, hfeed⟩
  | cons w ws ih =>
    obtain ⟨ha, hc', hfeed'⟩ := σ.attempt_waste addr (hws w (by simp)) hc hfeed
    obtain ⟨σk, h, hck, hfin⟩ := ih _ (fun t ht => hws t (by simp [ht])) hc' hfeed'
    exact ⟨σk, Vd.afterRetries_cons.mpr ⟨ha, h⟩, hck, hfin⟩

/-- **Completeness against a stream.** Rejected frames — each behind any amount of noise and async frames — and
    silences cost one attempt each; the valid matching frame behind `ws.length` of them ends the call at attempt
    `ws.length + 1` — with its payload (flag 0) or the device error — whatever follows, with exactly that
    many frames written. -/
theorem Vd.veCommandGetL_stream (ws : List (Bool × Waste)) (i : Bool) (post : List Bool) {σ : Vd} {addr : Nat}
    (haddr : addr < 65536) {flag : Nat} (hflag : flag < 256) {payload : Bytes} (hpl : IsBytes payload)
    (hws : ∀ w ∈ ws, w.2.Ok addr) {segs : List (Bytes × Bytes)} {noise : Bytes} (rest : Bytes)
    (hsegs : ∀ s ∈ segs, 58 ∉ s.1 ∧ 10 ∉ s.2) (hnoise : 58 ∉ noise) (hc : σ.port.Clean)
    (hfeed : Feeds σ.port.reply σ.port.nW σ.pending ws i
      ((segs.map asyncSeg).flatten ++ noise ++ frameOf (getResponseBody addr flag payload) ++ rest)) :
    ∃ σ', Vd.veCommandGetL (ws.map (·.1) ++ i :: post) σ addr =
        (σ', match flagError flag with | some e => .err e | none => .ok payload) ∧
      σ'.port.nW = σ.port.nW + ws.length + 1 ∧ σ'.pending = rest := by
  obtain ⟨σk, hpre, hck, hfin⟩ := Vd.afterRetries_stream ws i σ addr hws _ hc hfeed
  obtain ⟨hok, hp⟩ := σk.afterSend_clean i 7 (paramFor 7 addr) hck
  obtain ⟨σ', h, hn, hr⟩ :=
    Vd.veCommandGetL_frame (ws.map (·.1)) i post haddr hflag hpl rest hpre hok hck.rFail hsegs hnoise (hp.trans hfin)
  exact ⟨σ', h, by rwa [List.length_map] at hn, hr⟩

end Victron
