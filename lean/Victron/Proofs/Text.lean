import Victron.Model.Text
/- strings.TrimSpace (Model/Text.lean) removes exactly a string of white-space runes at each end -/
namespace Victron

theorem spaceSeqs_nonempty : ∀ p ∈ spaceSeqs, p ≠ [] := by decide

theorem stripPrefix?_some {p s rest : Bytes} (h : stripPrefix? p s = some rest) : s = p ++ rest := by
  unfold stripPrefix? at h
  split at h
  · rename_i hp
    simp at h; subst h
    exact (List.prefix_iff_eq_append.mp (List.isPrefixOf_iff_prefix.mp hp)).symm
  · simp at h

theorem stripPrefix?_none {p s : Bytes} (h : stripPrefix? p s = none) : ¬ p <+: s := by
  unfold stripPrefix? at h
  split at h
  · simp at h
  · rename_i hp; intro hh; exact hp (List.isPrefixOf_iff_prefix.mpr hh)

/-- The loop shared by `trimLeft` and `trimSpace.go`: `f` strips one sequence of `seqs` per unit of fuel until none is a
    prefix. With enough fuel the input is a string of sequences followed by the result, of which no sequence is a prefix. -/
theorem strip_spec (seqs : List Bytes) (hne : ∀ p ∈ seqs, p ≠ []) (f : Nat → Bytes → Bytes) (h0 : ∀ s, f 0 s = s)
    (hstep : ∀ n s, f (n + 1) s =
      match seqs.findSome? (fun p => stripPrefix? p s) with | some rest => f n rest | none => s)
    (fuel : Nat) (s : Bytes) (hf : s.length ≤ fuel) :
    ∃ ws : List Bytes, (∀ w ∈ ws, w ∈ seqs) ∧ s = ws.flatten ++ f fuel s ∧ ∀ p ∈ seqs, ¬ p <+: f fuel s := by
  induction fuel generalizing s with
  | zero =>
    have : s = [] := List.length_eq_zero_iff.mp (by omega)
    subst this
    rw [h0]
    exact ⟨[], by simp, by simp, fun p hp hpre => hne p hp (List.prefix_nil.mp hpre)⟩
  | succ n ih =>
    rw [hstep]
    cases hfs : seqs.findSome? (fun p => stripPrefix? p s) with
    | some rest =>
      obtain ⟨p, hp, hps⟩ := List.exists_of_findSome?_eq_some hfs
      have hs := stripPrefix?_some hps
      have hlen : rest.length ≤ n := by
        have : s.length = p.length + rest.length := by rw [hs]; simp
        have : 0 < p.length := List.length_pos_iff.mpr (hne p hp)
        omega
      obtain ⟨ws, hws, hr, hno⟩ := ih rest hlen
      refine ⟨p :: ws, by simpa [hp] using hws, ?_, hno⟩
      rw [List.flatten_cons, List.append_assoc, ← hr]; exact hs
    | none =>
      exact ⟨[], by simp, by simp, fun p hp => stripPrefix?_none (List.findSome?_eq_none_iff.mp hfs p hp)⟩

/-- a string of white-space runes -/
def IsSpaces (a : Bytes) : Prop := ∃ ws : List Bytes, (∀ w ∈ ws, w ∈ spaceSeqs) ∧ a = ws.flatten

theorem IsSpaces.nil : IsSpaces [] := ⟨[], by simp, rfl⟩
theorem IsSpaces.cons {p a : Bytes} (hp : p ∈ spaceSeqs) (ha : IsSpaces a) : IsSpaces (p ++ a) := by
  obtain ⟨ws, h1, rfl⟩ := ha
  exact ⟨p :: ws, List.forall_mem_cons.mpr ⟨hp, h1⟩, by simp⟩

theorem IsSpaces.append {a b : Bytes} (ha : IsSpaces a) (hb : IsSpaces b) : IsSpaces (a ++ b) := by
  obtain ⟨wa, h1, rfl⟩ := ha
  obtain ⟨wb, h2, rfl⟩ := hb
  exact ⟨wa ++ wb, fun w hw => (List.mem_append.mp hw).elim (h1 w) (h2 w), by simp⟩

/-- no white-space rune at the front -/
def NoLeadingSpace (s : Bytes) : Prop := ∀ p ∈ spaceSeqs, ¬ p <+: s

/-- no white-space rune at the end -/
def NoTrailingSpace (s : Bytes) : Prop := ∀ p ∈ spaceSeqs, ¬ p <:+ s

theorem trimLeft_spec (fuel : Nat) (s : Bytes) (hf : s.length ≤ fuel) :
    ∃ a, IsSpaces a ∧ s = a ++ trimLeft fuel s ∧ NoLeadingSpace (trimLeft fuel s) := by
  obtain ⟨ws, hws, hs, hno⟩ := strip_spec spaceSeqs spaceSeqs_nonempty trimLeft (fun _ => rfl) (fun _ _ => rfl) fuel s hf
  exact ⟨_, ⟨ws, hws, rfl⟩, hs, hno⟩

/-- the same loop over the reversed string with the reversed sequences, read backwards -/
theorem trimGo_spec (fuel : Nat) (t : Bytes) (hf : t.length ≤ fuel) :
    ∃ b, IsSpaces b ∧ t.reverse = (trimSpace.go fuel t).reverse ++ b ∧ NoTrailingSpace (trimSpace.go fuel t).reverse := by
  have hne : ∀ p ∈ spaceSeqs.map List.reverse, p ≠ [] := fun p hp h => by
    obtain ⟨q, hq, rfl⟩ := List.mem_map.mp hp
    exact spaceSeqs_nonempty q hq (List.reverse_eq_nil_iff.mp h)
  obtain ⟨ws, hws, hs, hno⟩ := strip_spec (spaceSeqs.map List.reverse) hne trimSpace.go
    (fun _ => rfl) (fun n s => by rw [List.findSome?_map]; rfl) fuel t hf
  refine ⟨ws.flatten.reverse, ⟨(ws.map List.reverse).reverse, fun w hw => ?_, List.reverse_flatten⟩,
    by rw [← List.reverse_append, ← hs],
    fun p hp hsuf => hno _ (List.mem_map_of_mem hp) (by simpa using List.reverse_prefix.mpr hsuf)⟩
  obtain ⟨w', hw', rfl⟩ := List.mem_map.mp (List.mem_reverse.mp hw)
  obtain ⟨q, hq, rfl⟩ := List.mem_map.mp (hws w' hw')
  rwa [List.reverse_reverse]

/-- **`strings.TrimSpace`.** The result is the input with a string of white-space runes removed at each end,
    and it neither starts nor ends with a white-space rune. -/
theorem trimSpace_spec (s : Bytes) :
    ∃ a b, IsSpaces a ∧ IsSpaces b ∧ s = a ++ trimSpace s ++ b ∧
      NoLeadingSpace (trimSpace s) ∧ NoTrailingSpace (trimSpace s) := by
  obtain ⟨a, ha, hs, hnl⟩ := trimLeft_spec s.length s (Nat.le_refl _)
  obtain ⟨b, hb, hr, hnt⟩ := trimGo_spec _ (trimLeft s.length s).reverse (Nat.le_refl _)
  have hl : trimLeft s.length s = trimSpace s ++ b := by rwa [List.reverse_reverse] at hr
  refine ⟨a, b, ha, hb, ?_, fun p hp hpre => hnl p hp ?_, hnt⟩
  · rw [List.append_assoc, ← hl]; exact hs
  · rw [hl]; exact List.prefix_append_of_prefix hpre

theorem trimSpace_of_clean (s : Bytes) (h1 : NoLeadingSpace s) (h2 : NoTrailingSpace s) : trimSpace s = s := by
  obtain ⟨a, b, ⟨wa, hwa, rfl⟩, ⟨wb, hwb, rfl⟩, hs, _, _⟩ := trimSpace_spec s
  have ha : wa.flatten = [] := by
    cases wa with
    | nil => rfl
    | cons w ws =>
      exfalso
      apply h1 w (hwa w (by simp))
      rw [hs]; simp [List.append_assoc]
  have hb : wb.flatten = [] := by
    rcases List.eq_nil_or_concat wb with rfl | ⟨ws, w, rfl⟩
    · rfl
    · exfalso
      apply h2 w (hwb w (by simp))
      rw [hs]
      exact ⟨wa.flatten ++ trimSpace s ++ ws.flatten, by simp⟩
  rw [ha, hb] at hs
  simpa using hs.symm

theorem trimSpace_idem (s : Bytes) : trimSpace (trimSpace s) = trimSpace s := by
  obtain ⟨_, _, _, _, _, h1, h2⟩ := trimSpace_spec s
  exact trimSpace_of_clean _ h1 h2

theorem dropWhile_zero_spec (r : Bytes) :
    ∃ k, r = List.replicate k 0 ++ r.dropWhile (· == 0) ∧ (r.dropWhile (· == 0)).head? ≠ some 0 := by
  refine ⟨(r.takeWhile (· == 0)).length, ?_, fun h => ?_⟩
  · have e : r.takeWhile (· == 0) = List.replicate (r.takeWhile (· == 0)).length 0 :=
      List.eq_replicate_iff.mpr ⟨rfl, fun b hb => by simpa using List.all_eq_true.mp List.all_takeWhile b hb⟩
    rw [← e, List.takeWhile_append_dropWhile]
  · have := List.head?_dropWhile_not (· == 0) r
    simp [h] at this

/-- `trimNul` removes exactly the trailing NUL padding -/
theorem trimNul_spec (bs : Bytes) :
    ∃ k, bs = trimNul bs ++ List.replicate k 0 ∧ (trimNul bs).getLast? ≠ some 0 := by
  unfold trimNul
  obtain ⟨k, h1, h2⟩ := dropWhile_zero_spec bs.reverse
  refine ⟨k, ?_, ?_⟩
  · have := congrArg List.reverse h1
    rw [List.reverse_reverse, List.reverse_append, List.reverse_replicate] at this
    exact this
  · rw [List.getLast?_reverse]; exact h2

end Victron
