import Victron.Proofs.Loop
/- logging is transparent: erasing the logger configuration and the log buffers commutes with every operation
   (for the two loops by functional induction, the cases in the order given at the head of Proofs/Recv.lean) -/
namespace Victron

/-- forget the logger configuration and everything the loggers accumulated -/
def Vd.erase (σ : Vd) : Vd := { σ with ioLog := false, dbg := false, txBuf := [], rxBuf := [], lines := [] }

@[simp] theorem Vd.erase_port (σ : Vd) : σ.erase.port = σ.port := rfl
@[simp] theorem Vd.erase_buf (σ : Vd) : σ.erase.buf = σ.buf := rfl
@[simp] theorem Vd.erase_erase (σ : Vd) : σ.erase.erase = σ.erase := rfl

theorem Vd.write_erase (σ : Vd) (b : Bytes) : σ.erase.write b = ((σ.write b).1.erase, (σ.write b).2) := by
  rw [Vd.write_eq, Vd.write_eq]; simp [Vd.erase]

theorem Vd.recvUntilF_erase (fuel : Nat) (σ : Vd) (needle : Nat) :
    Vd.recvUntilF fuel σ.erase needle = ((Vd.recvUntilF fuel σ needle).1.erase, (Vd.recvUntilF fuel σ needle).2) := by
  fun_induction Vd.recvUntilF fuel σ needle with
  | case1 fuel σ needle pre post hs => rw [Vd.recvUntilF.eq_def _ σ.erase]; simp only [Vd.erase_buf, hs]; rfl
  | case2 σ needle hs => rw [Vd.recvUntilF.eq_def _ σ.erase]; simp only [Vd.erase_buf, hs]; rfl
  | case3 σ needle hs fuel p c hr ih =>
    rw [Vd.recvUntilF.eq_def _ σ.erase]; simp only [Vd.erase_buf, Vd.erase_port, hs, hr]; exact ih
  | case4 σ needle hs fuel p hr =>
    rw [Vd.recvUntilF.eq_def _ σ.erase]; simp only [Vd.erase_buf, Vd.erase_port, hs, hr]; rfl

theorem Vd.receiveResponseF_erase (fuel : Nat) (σ : Vd) :
    Vd.receiveResponseF fuel σ.erase = ((Vd.receiveResponseF fuel σ).1.erase, (Vd.receiveResponseF fuel σ).2) := by
  have hr : ∀ (σ : Vd) needle, σ.erase.recvUntil needle = ((σ.recvUntil needle).1.erase, (σ.recvUntil needle).2) :=
    fun σ needle => Vd.recvUntilF_erase _ σ needle
  fun_induction Vd.receiveResponseF fuel σ with
  | case1 => rfl
  | case2 fuel σ σ1 h1 => simp only [Vd.receiveResponseF, hr, h1]
  | case3 fuel σ σ1 pre σ2 h1 h2 => simp only [Vd.receiveResponseF, hr, h1, h2]
  | case4 fuel σ σ1 pre σ2 body hA h1 h2 ih => simp only [Vd.receiveResponseF, hr, h1, h2, if_pos hA]; exact ih
  | case5 fuel σ σ1 pre σ2 body hA h1 h2 => simp only [Vd.receiveResponseF, hr, h1, h2, if_neg hA]

theorem Vd.flushReceiver_erase (σ : Vd) : σ.erase.flushReceiver = σ.flushReceiver.erase := rfl

theorem Vd.sendReceive_erase (σ : Vd) (idle : Bool) (cmd : Nat) (data : Bytes) :
    σ.erase.sendReceive idle cmd data = ((σ.sendReceive idle cmd data).1.erase, (σ.sendReceive idle cmd data).2) := by
  unfold Vd.sendReceive
  have h0 : (if idle = true then σ.erase.flushReceiver else σ.erase) = (if idle = true then σ.flushReceiver else σ).erase := by
    split <;> rfl
  simp only [h0, Vd.write_erase]
  generalize (if idle = true then σ.flushReceiver else σ).write (txFrame cmd data) = w
  obtain ⟨σ1, _ | _⟩ := w
  · rfl
  · exact Vd.receiveResponseF_erase _ σ1

theorem Vd.veCommand_erase (σ : Vd) (idle : Bool) (cmd addr : Nat) :
    σ.erase.veCommand idle cmd addr = ((σ.veCommand idle cmd addr).1.erase, (σ.veCommand idle cmd addr).2) := by
  rw [Vd.veCommand_eq, Vd.veCommand_eq, Vd.sendReceive_erase]

theorem Vd.veCommandGetL_erase (idles : List Bool) (σ : Vd) (addr : Nat) :
    Vd.veCommandGetL idles σ.erase addr = ((Vd.veCommandGetL idles σ addr).1.erase, (Vd.veCommandGetL idles σ addr).2) := by
  induction idles generalizing σ with
  | nil => rfl
  | cons i is ih =>
    rw [Vd.veCommandGetL_cons, Vd.veCommandGetL_cons, Vd.attempt_eq, Vd.attempt_eq, Vd.sendReceive_erase]
    cases verdict addr (σ.sendReceive i 7 (paramFor 7 addr)).2 with
    | retry => exact ih _
    | done r => rfl

theorem Vd.lineEnd_erase (σ : Vd) : σ.lineEnd.erase = σ.erase := by
  unfold Vd.lineEnd; split <;> rfl

theorem Vd.erase_lineEnd (σ : Vd) : σ.erase.lineEnd = σ.erase := rfl

end Victron
