import Victron.Proofs.Port
/-
  The receive side: `recvUntil` and the frame scanner `receiveResponse`. Three things are said about each, once:
  what it can do to the rest of the state (`Vd.Recv`); what a result says about the pending bytes and the rx capture
  (`Vd.Took`, `_some`); and that on a port whose reads do not fail it is a function of the pending bytes alone, however
  the port cuts them into chunks (`scan`, `_clean`).
  The proofs follow the definitions by functional induction, whose cases come in the order of the branches. For
  `recvUntilF`: the needle is in the buffer; the fuel is spent; a chunk was read (the recursive call); the read failed.
  For `receiveResponseF`: the fuel is spent; no ':'; no '\n'; an asynchronous frame, skipped (the recursive call); a frame.
  Bytes are numbers: 58 is ':', 10 is '\n', 65 is 'A'. A body is asynchronous when `body.headD 0 = 65 ∧ body ≠ []`, the
  model's form of Go's `len(received) > 0 && received[0] == 'A'`; statements carry its negation as `hA`.
-/
namespace Victron

theorem splitFirst_spec (x : Nat) (l : Bytes) :
    match splitFirst x l with
    | some (p, q) => l = p ++ x :: q ∧ x ∉ p
    | none => x ∉ l := by
  fun_induction splitFirst x l with
  | case1 => simp
  | case2 bs => simp
  | case3 b bs hb p q hs ih => rw [hs] at ih; simpa [Ne.symm hb] using ih
  | case4 b bs hb hs ih => rw [hs] at ih; simpa [Ne.symm hb] using ih

theorem splitFirst_some {x : Nat} {l p q : Bytes} (h : splitFirst x l = some (p, q)) :
    l = p ++ x :: q ∧ x ∉ p := by
  have := splitFirst_spec x l; rwa [h] at this

theorem splitFirst_none {x : Nat} {l : Bytes} : splitFirst x l = none ↔ x ∉ l := by
  constructor
  · intro h; have := splitFirst_spec x l; rwa [h] at this
  · intro h
    cases hs : splitFirst x l with
    | none => rfl
    | some pq => exact absurd (by rw [(splitFirst_some hs).1]; simp) h

theorem splitFirst_of_not_mem {x : Nat} {p : Bytes} (q : Bytes) (h : x ∉ p) :
    splitFirst x (p ++ x :: q) = some (p, q) := by
  induction p with
  | nil => simp [splitFirst]
  | cons b bs ih =>
    have hb : ¬ b = x := by intro hb; exact h (by simp [hb])
    have : x ∉ bs := by intro hm; exact h (by simp [hm])
    simp [splitFirst, hb, ih this]

theorem splitFirst_append {x : Nat} {l p q : Bytes} (h : splitFirst x l = some (p, q)) (r : Bytes) :
    splitFirst x (l ++ r) = some (p, q ++ r) := by
  obtain ⟨rfl, hp⟩ := splitFirst_some h
  rw [List.append_assoc, List.cons_append]; exact splitFirst_of_not_mem _ hp

/-- the parts of the state the receive side never touches -/
def Vd.CfgEq (σ σ' : Vd) : Prop :=
  σ'.ioLog = σ.ioLog ∧ σ'.dbg = σ.dbg ∧ σ'.txBuf = σ.txBuf ∧ σ'.lines = σ.lines

theorem Vd.CfgEq.refl (σ : Vd) : σ.CfgEq σ := ⟨rfl, rfl, rfl, rfl⟩

theorem Vd.CfgEq.trans {σ σ' σ'' : Vd} (h1 : σ.CfgEq σ') (h2 : σ'.CfgEq σ'') : σ.CfgEq σ'' :=
  ⟨h2.1.trans h1.1, h2.2.1.trans h1.2.1, h2.2.2.1.trans h1.2.2.1, h2.2.2.2.trans h1.2.2.2⟩

/-- What `recvUntil` and `receiveResponse` can do to the driver, `got` saying whether they found what they looked for:
    nothing on the write side, the script, the flush count or the logger configuration; bytes are only taken from the
    front of the pending stream; at most one Read delivers nothing, and none when something was found; the potential
    grows by no more than those Reads (`pot' - pot ≤ nE' - nE`, written without subtraction). -/
structure Vd.Recv (σ σ' : Vd) (got : Bool) : Prop where
  port : σ.port.WEq σ'.port
  nF : σ'.port.nF = σ.port.nF
  cfg : σ.CfgEq σ'
  suffix : σ'.pending <:+ σ.pending
  nE : σ'.port.nE ≤ σ.port.nE + (if got then 0 else 1)
  pot : σ'.port.pot + σ.port.nE ≤ σ.port.pot + σ'.port.nE

/-- Only a step that found something is followed by another: a Read that delivers nothing ends the scan, which is why
    the bound on `nE` stays at one however many steps are chained. -/
theorem Vd.Recv.trans {σ σ₁ σ₂ : Vd} {g : Bool} (h1 : σ.Recv σ₁ true) (h2 : σ₁.Recv σ₂ g) : σ.Recv σ₂ g where
  port := h1.port.trans h2.port
  nF := h2.nF.trans h1.nF
  cfg := h1.cfg.trans h2.cfg
  suffix := h2.suffix.trans h1.suffix
  nE := by have a := h1.nE; have := h2.nE; rw [if_pos rfl] at a; omega
  pot := by have := h1.pot; have := h2.pot; omega

theorem Vd.Recv.ofBuf (σ : Vd) {b : Bytes} (rx : Bytes) {g : Bool} (h : b <:+ σ.buf) :
    σ.Recv { σ with buf := b, rxBuf := rx } g where
  port := Port.WEq.refl _
  nF := rfl
  cfg := .refl σ
  suffix := by obtain ⟨t, ht⟩ := h; exact ⟨t, by simp [Vd.pending, ← ht]⟩
  nE := by simp
  pot := by simp

theorem Vd.Recv.ofReadNone (σ : Vd) :
    σ.Recv { σ with port := { σ.port with nR := σ.port.nR + 1, nE := σ.port.nE + 1 }, buf := [] } false where
  port := ⟨rfl, rfl, rfl, rfl, rfl, rfl⟩
  nF := rfl
  cfg := ⟨rfl, rfl, rfl, rfl⟩
  suffix := ⟨σ.buf, by simp [Vd.pending]⟩
  nE := by simp
  pot := by simp [Port.pot, Port.credit]; omega

theorem Vd.Recv.ofReadSome (σ : Vd) {c : Bytes} {cs : List Bytes} (hq : σ.port.queue = c :: cs) :
    σ.Recv { σ with port := { σ.port with nR := σ.port.nR + 1, queue := cs }, buf := σ.buf ++ c } true where
  port := ⟨rfl, rfl, rfl, rfl, rfl, rfl⟩
  nF := rfl
  cfg := ⟨rfl, rfl, rfl, rfl⟩
  suffix := by simp [Vd.pending, hq]
  nE := by simp
  pot := by simp [Port.pot, Port.credit, hq]; omega

theorem Vd.recvUntilF_recv (fuel : Nat) (σ : Vd) (needle : Nat) :
    σ.Recv (Vd.recvUntilF fuel σ needle).1 (Vd.recvUntilF fuel σ needle).2.isSome := by
  fun_induction Vd.recvUntilF fuel σ needle with
  | case1 fuel σ needle pre post hs => exact .ofBuf σ _ ⟨pre ++ [needle], by simp [(splitFirst_some hs).1]⟩
  | case2 σ needle hs => exact .ofBuf σ σ.rxBuf List.nil_suffix
  | case3 σ needle hs fuel p c hr ih =>
    obtain ⟨cs, hq, rfl⟩ := Port.read_some hr
    exact (Vd.Recv.ofReadSome σ hq).trans ih
  | case4 σ needle hs fuel p hr => rw [Port.read_none hr]; exact .ofReadNone σ

theorem Vd.recvUntil_recv {σ σ' : Vd} {needle : Nat} {r : Option Bytes} (h : σ.recvUntil needle = (σ', r)) :
    σ.Recv σ' r.isSome := by
  have := Vd.recvUntilF_recv (σ.port.queue.length + 1) σ needle
  rwa [← Vd.recvUntil, h] at this

theorem Vd.receiveResponseF_recv (fuel : Nat) (σ : Vd) :
    σ.Recv (Vd.receiveResponseF fuel σ).1 (Vd.receiveResponseF fuel σ).2.isSome := by
  fun_induction Vd.receiveResponseF fuel σ with
  | case1 σ => exact .ofBuf σ σ.rxBuf (List.suffix_refl _)
  | case2 fuel σ σ1 h1 => exact Vd.recvUntil_recv h1
  | case3 fuel σ σ1 pre σ2 h1 h2 => exact (Vd.recvUntil_recv h1).trans (Vd.recvUntil_recv h2)
  | case4 fuel σ σ1 pre σ2 body hA h1 h2 ih => exact ((Vd.recvUntil_recv h1).trans (Vd.recvUntil_recv h2)).trans ih
  | case5 fuel σ σ1 pre σ2 body hA h1 h2 => exact (Vd.recvUntil_recv h1).trans (Vd.recvUntil_recv h2)

theorem Vd.receiveResponse_recv (σ : Vd) : σ.Recv σ.receiveResponse.1 σ.receiveResponse.2.isSome :=
  Vd.receiveResponseF_recv _ σ

/-- `σ'` is `σ` after `taken` left the front of the pending stream and, with the I/O logger on, entered the rx capture -/
structure Vd.Took (σ σ' : Vd) (taken : Bytes) : Prop where
  pending : σ.pending = taken ++ σ'.pending
  rxBuf : σ'.rxBuf = if σ.ioLog then σ.rxBuf ++ taken else σ.rxBuf
  ioLog : σ'.ioLog = σ.ioLog

theorem Vd.Took.trans {σ σ₁ σ₂ : Vd} {a b : Bytes} (h1 : σ.Took σ₁ a) (h2 : σ₁.Took σ₂ b) : σ.Took σ₂ (a ++ b) where
  pending := by rw [h1.pending, h2.pending, List.append_assoc]
  rxBuf := by rw [h2.rxBuf, h1.ioLog, h1.rxBuf]; split <;> simp
  ioLog := h2.ioLog.trans h1.ioLog

theorem Vd.recvUntilF_some {fuel : Nat} {σ σ' : Vd} {needle : Nat} {pre : Bytes}
    (h : Vd.recvUntilF fuel σ needle = (σ', some pre)) : σ.Took σ' (pre ++ [needle]) ∧ needle ∉ pre := by
  fun_induction Vd.recvUntilF fuel σ needle with
  | case1 fuel σ needle pre' post hs =>
    obtain ⟨h1, h2⟩ := splitFirst_some hs
    cases h
    exact ⟨⟨by simp [Vd.pending, h1], by simp, rfl⟩, h2⟩
  | case2 | case4 => cases h
  | case3 σ needle hs fuel p c hr ih =>
    obtain ⟨cs, hq, rfl⟩ := Port.read_some hr
    obtain ⟨⟨hp, hx, hi⟩, hn⟩ := ih h
    exact ⟨⟨by simpa [Vd.pending, hq] using hp, hx, hi⟩, hn⟩

/-- one async frame behind noise: `noise ++ ":A" ++ a ++ "\n"` -/
def asyncSeg (s : Bytes × Bytes) : Bytes := s.1 ++ 58 :: 65 :: s.2 ++ [10]

theorem length_le_flatten_asyncSeg (segs : List (Bytes × Bytes)) : segs.length ≤ ((segs.map asyncSeg).flatten).length := by
  induction segs with
  | nil => simp
  | cons s t ih => simp only [List.map_cons, List.flatten_cons, List.length_append, List.length_cons, asyncSeg]; omega

/-- What was taken for a found body: skipped asynchronous frames (a unit of fuel each), noise without ':', the frame. -/
theorem Vd.receiveResponseF_some {fuel : Nat} {σ σ' : Vd} {body : Bytes}
    (h : Vd.receiveResponseF fuel σ = (σ', some body)) :
    ∃ (segs : List (Bytes × Bytes)) (noise : Bytes),
      (∀ s ∈ segs, 58 ∉ s.1 ∧ 10 ∉ s.2) ∧ 58 ∉ noise ∧ 10 ∉ body ∧ ¬ (body.headD 0 = 65 ∧ body ≠ []) ∧
      segs.length < fuel ∧ σ.Took σ' ((segs.map asyncSeg).flatten ++ noise ++ 58 :: body ++ [10]) := by
  fun_induction Vd.receiveResponseF fuel σ with
  | case1 | case2 | case3 => cases h
  | case4 fuel σ σ1 pre σ2 b hA h1 h2 ih =>
    obtain ⟨t1, n1⟩ := Vd.recvUntilF_some h1
    obtain ⟨t2, n2⟩ := Vd.recvUntilF_some h2
    obtain ⟨segs, noise, hs, hn, hb, ha, hl, t⟩ := ih h
    -- the skipped frame is an async segment: its body starts with 'A'
    cases b with
    | nil => exact absurd rfl hA.2
    | cons x a =>
      obtain rfl : x = 65 := hA.1
      refine ⟨(pre, a) :: segs, noise, List.forall_mem_cons.mpr ⟨⟨n1, fun hm => n2 (List.mem_cons_of_mem _ hm)⟩, hs⟩,
        hn, hb, ha, Nat.succ_lt_succ hl, ?_⟩
      simpa [asyncSeg] using (t1.trans t2).trans t
  | case5 fuel σ σ1 pre σ2 b hA h1 h2 =>
    obtain ⟨t1, n1⟩ := Vd.recvUntilF_some h1
    obtain ⟨t2, n2⟩ := Vd.recvUntilF_some h2
    cases h
    exact ⟨[], pre, by simp, n1, n2, hA, Nat.succ_pos _, by simpa using t1.trans t2⟩

theorem Vd.recvUntil_split {σ σ' : Vd} {needle : Nat} {pre : Bytes} (h : σ.recvUntil needle = (σ', some pre)) :
    splitFirst needle σ.pending = some (pre, σ'.pending) := by
  obtain ⟨t, hn⟩ := Vd.recvUntilF_some h
  rw [t.pending, List.append_assoc]; exact splitFirst_of_not_mem _ hn

/-- With no read failing and fuel for every chunk that waits, the needle is missed only if it is not pending, and nothing
    is left. (Found, it is the first one pending whatever the port does: `recvUntil_split`.) -/
theorem Vd.recvUntilF_none {fuel : Nat} {σ σ' : Vd} {needle : Nat} (hrf : σ.port.rFail = [])
    (hf : σ.port.queue.length < fuel) (h : Vd.recvUntilF fuel σ needle = (σ', none)) :
    splitFirst needle σ.pending = none ∧ σ'.pending = [] := by
  fun_induction Vd.recvUntilF fuel σ needle with
  | case1 => cases h
  | case2 => omega
  | case3 σ needle hs fuel p c hr ih =>
    obtain ⟨cs, hq, rfl⟩ := Port.read_some hr
    rw [hq] at hf
    simpa [Vd.pending, hq] using ih hrf (Nat.lt_of_succ_lt_succ hf) h
  | case4 σ needle hs fuel p hr =>
    -- the read found the queue empty: what is pending is the buffer
    rw [Port.read_clean hrf] at hr
    cases hq : σ.port.queue <;> rw [hq] at hr <;> cases hr
    cases h
    simpa [Vd.pending, hq] using hs

theorem Vd.recvUntil_none {σ σ' : Vd} {needle : Nat} (hrf : σ.port.rFail = []) (h : σ.recvUntil needle = (σ', none)) :
    splitFirst needle σ.pending = none ∧ σ'.pending = [] :=
  Vd.recvUntilF_none hrf (Nat.lt_succ_self _) h

/-- What the frame scanner makes of a byte stream when no read fails: the body of the first complete frame that is not
    asynchronous, if there is one, and the bytes left pending. (`fuel` as in `receiveResponseF`: one unit per frame.) -/
def scan : Nat → Bytes → Option Bytes × Bytes
  | 0, s => (none, s)
  | fuel + 1, s =>
    match splitFirst 58 s with
    | none => (none, [])
    | some (_, t) =>
      match splitFirst 10 t with
      | none => (none, [])
      | some (body, rest) => if body.headD 0 = 65 ∧ body ≠ [] then scan fuel rest else (some body, rest)

theorem Vd.receiveResponseF_clean (fuel : Nat) {σ : Vd} (hrf : σ.port.rFail = []) :
    (Vd.receiveResponseF fuel σ).2 = (scan fuel σ.pending).1 ∧
    (Vd.receiveResponseF fuel σ).1.pending = (scan fuel σ.pending).2 := by
  fun_induction Vd.receiveResponseF fuel σ with
  | case1 => exact ⟨rfl, rfl⟩
  | case2 fuel σ σ1 h1 =>
    obtain ⟨hs, hp⟩ := Vd.recvUntil_none hrf h1
    simp only [scan, hs, hp, and_self]
  | case3 fuel σ σ1 pre σ2 h1 h2 =>
    obtain ⟨hs, hp⟩ := Vd.recvUntil_none ((Vd.recvUntil_recv h1).port.rFail.trans hrf) h2
    simp only [scan, Vd.recvUntil_split h1, hs, hp, and_self]
  | case4 fuel σ σ1 pre σ2 body hA h1 h2 ih =>
    simp only [scan, Vd.recvUntil_split h1, Vd.recvUntil_split h2, if_pos hA]
    exact ih ((Vd.recvUntil_recv h2).port.rFail.trans ((Vd.recvUntil_recv h1).port.rFail.trans hrf))
  | case5 fuel σ σ1 pre σ2 body hA h1 h2 =>
    simp only [scan, Vd.recvUntil_split h1, Vd.recvUntil_split h2, if_neg hA, and_self]

/-- an asynchronous frame behind noise costs the scanner one unit of fuel and nothing else -/
theorem scan_async (segs : List (Bytes × Bytes)) (hsegs : ∀ s ∈ segs, 58 ∉ s.1 ∧ 10 ∉ s.2) (fuel : Nat) (s : Bytes) :
    scan (segs.length + fuel) ((segs.map asyncSeg).flatten ++ s) = scan fuel s := by
  induction segs with
  | nil => simp
  | cons a segs ih =>
    obtain ⟨h1, h2⟩ := hsegs a (by simp)
    have e : ((a :: segs).map asyncSeg).flatten ++ s = a.1 ++ 58 :: ((65 :: a.2) ++ 10 :: ((segs.map asyncSeg).flatten ++ s)) := by
      simp [asyncSeg]
    rw [e, List.length_cons, Nat.add_right_comm, scan, splitFirst_of_not_mem _ h1]
    simp only
    rw [splitFirst_of_not_mem _ (by simpa using h2)]
    simpa using ih (fun t ht => hsegs t (by simp [ht]))

/-- **Resynchronisation**, on bytes: noise without ':' and any number of asynchronous frames in front of a complete
    frame are skipped -/
theorem scan_skip (segs : List (Bytes × Bytes)) {fuel : Nat} (noise body rest : Bytes)
    (hsegs : ∀ s ∈ segs, 58 ∉ s.1 ∧ 10 ∉ s.2) (hnoise : 58 ∉ noise) (hbody : 10 ∉ body)
    (hA : ¬ (body.headD 0 = 65 ∧ body ≠ [])) (hf : segs.length < fuel) :
    scan fuel ((segs.map asyncSeg).flatten ++ noise ++ 58 :: body ++ 10 :: rest) = (some body, rest) := by
  obtain ⟨n, rfl⟩ : ∃ n, fuel = segs.length + (n + 1) := ⟨fuel - segs.length - 1, by omega⟩
  rw [List.append_assoc, List.append_assoc, scan_async segs hsegs, List.cons_append, scan, splitFirst_of_not_mem _ hnoise]
  simp only
  rw [splitFirst_of_not_mem _ hbody]
  simp only [if_neg hA]

/-- `tail` holds no complete frame: no ':' at all, or a ':' with no '\n' behind it -/
def Partial (tail : Bytes) : Prop :=
  58 ∉ tail ∨ ∃ noise part, tail = noise ++ 58 :: part ∧ 58 ∉ noise ∧ 10 ∉ part

/-- **Silence**, on bytes: asynchronous frames and then no complete frame — nothing is found, nothing is left -/
theorem scan_silence (segs : List (Bytes × Bytes)) {fuel : Nat} (tail : Bytes)
    (hsegs : ∀ s ∈ segs, 58 ∉ s.1 ∧ 10 ∉ s.2) (ht : Partial tail) (hf : segs.length < fuel) :
    scan fuel ((segs.map asyncSeg).flatten ++ tail) = (none, []) := by
  obtain ⟨n, rfl⟩ : ∃ n, fuel = segs.length + (n + 1) := ⟨fuel - segs.length - 1, by omega⟩
  rw [scan_async segs hsegs, scan]
  rcases ht with h | ⟨noise, part, rfl, hn, hp⟩
  · rw [splitFirst_none.mpr h]
  · rw [splitFirst_of_not_mem _ hn]
    simp only
    rw [splitFirst_none.mpr hp]

/-- the scanner with a unit of fuel per byte, as `receiveResponse` runs it: it never runs out -/
def scanAll (s : Bytes) : Option Bytes × Bytes := scan (s.length + 1) s

theorem Vd.receiveResponse_clean {σ : Vd} (hrf : σ.port.rFail = []) :
    σ.receiveResponse.2 = (scanAll σ.pending).1 ∧ σ.receiveResponse.1.pending = (scanAll σ.pending).2 :=
  Vd.receiveResponseF_clean _ hrf

theorem scanAll_skip (segs : List (Bytes × Bytes)) (noise body rest : Bytes)
    (hsegs : ∀ s ∈ segs, 58 ∉ s.1 ∧ 10 ∉ s.2) (hnoise : 58 ∉ noise) (hbody : 10 ∉ body)
    (hA : ¬ (body.headD 0 = 65 ∧ body ≠ [])) :
    scanAll ((segs.map asyncSeg).flatten ++ noise ++ 58 :: body ++ 10 :: rest) = (some body, rest) :=
  scan_skip segs noise body rest hsegs hnoise hbody hA (by
    have := length_le_flatten_asyncSeg segs; simp only [List.length_append]; omega)

theorem scanAll_silence (segs : List (Bytes × Bytes)) (tail : Bytes)
    (hsegs : ∀ s ∈ segs, 58 ∉ s.1 ∧ 10 ∉ s.2) (ht : Partial tail) :
    scanAll ((segs.map asyncSeg).flatten ++ tail) = (none, []) :=
  scan_silence segs tail hsegs ht (by have := length_le_flatten_asyncSeg segs; simp only [List.length_append]; omega)

theorem Vd.receiveResponseF_skip (segs : List (Bytes × Bytes)) (fuel : Nat) (σ : Vd) (noise body rest : Bytes)
    (hrf : σ.port.rFail = [])
    (hsegs : ∀ s ∈ segs, 58 ∉ s.1 ∧ 10 ∉ s.2)
    (hnoise : 58 ∉ noise) (hbody : 10 ∉ body) (hA : ¬ (body.headD 0 = 65 ∧ body ≠ []))
    (hp : σ.pending = (segs.map asyncSeg).flatten ++ noise ++ 58 :: body ++ 10 :: rest)
    (hf : segs.length < fuel) :
    ∃ σ', Vd.receiveResponseF fuel σ = (σ', some body) ∧ σ'.pending = rest ∧ σ.port.WEq σ'.port ∧ σ.CfgEq σ' ∧
      σ'.port.nF = σ.port.nF := by
  have h := Vd.receiveResponseF_clean fuel hrf
  rw [hp, scan_skip segs noise body rest hsegs hnoise hbody hA hf] at h
  have hr := Vd.receiveResponseF_recv fuel σ
  exact ⟨_, Prod.ext rfl h.1, h.2, hr.port, hr.cfg, hr.nF⟩

end Victron
