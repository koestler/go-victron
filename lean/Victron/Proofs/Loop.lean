import Victron.Proofs.Exchange
import Victron.Proofs.Frame
/-
  The retry loop of `VeCommandGet`: every attempt is one exchange followed by the pure `verdict`; the call is a run of
  retried attempts (`afterRetries`) that either uses up the attempts or ends with one decisive attempt.
-/
namespace Victron

theorem Vd.veCommand_eq (σ : Vd) (idle : Bool) (cmd addr : Nat) :
    σ.veCommand idle cmd addr = ((σ.sendReceive idle cmd (paramFor cmd addr)).1,
      match (σ.sendReceive idle cmd (paramFor cmd addr)).2 with
      | none => .err .other
      | some resp => parseResponse cmd resp) := by
  unfold Vd.veCommand
  generalize σ.sendReceive idle cmd (paramFor cmd addr) = r
  obtain ⟨σ1, _ | _⟩ := r <;> rfl

theorem Vd.veCommand_ok {σ σ' : Vd} {idle : Bool} {cmd addr : Nat} {s : Slice} (h : σ.veCommand idle cmd addr = (σ', .ok s)) :
    ∃ body, σ.sendReceive idle cmd (paramFor cmd addr) = (σ', some body) ∧ parseResponse cmd body = .ok s := by
  rw [Vd.veCommand_eq] at h
  obtain ⟨rfl, h2⟩ := Prod.mk.inj h
  cases hs : (σ.sendReceive idle cmd (paramFor cmd addr)).2 with
  | none => rw [hs] at h2; simp at h2
  | some body => rw [hs] at h2; exact ⟨body, Prod.ext rfl hs, h2⟩

/-- one pass of the loop body -/
def Vd.attempt (σ : Vd) (idle : Bool) (addr : Nat) : Vd × Outcome :=
  match σ.veCommand idle 7 addr with
  | (σ1, .panic) => (σ1, .done .panic)
  | (σ1, .err _) => (σ1, .retry)
  | (σ1, .ok raw) =>
    match getStep addr raw with
    | .retry => (σ1, .retry)
    | .fail e => (σ1, .done (.err e))
    | .value v => (σ1, .done (.ok v))
    | .panic => (σ1, .done .panic)

theorem Vd.attempt_eq (σ : Vd) (idle : Bool) (addr : Nat) :
    σ.attempt idle addr =
      ((σ.sendReceive idle 7 (paramFor 7 addr)).1, verdict addr (σ.sendReceive idle 7 (paramFor 7 addr)).2) := by
  unfold Vd.attempt
  rw [Vd.veCommand_eq]
  cases (σ.sendReceive idle 7 (paramFor 7 addr)).2 with
  | none => rfl
  | some body =>
    rw [verdict]
    simp only
    cases parseResponse 7 body with
    | ok raw => simp only; cases getStep addr raw <;> rfl
    | _ => rfl

theorem Vd.veCommandGetL_cons (i : Bool) (is : List Bool) (σ : Vd) (addr : Nat) :
    Vd.veCommandGetL (i :: is) σ addr =
      match (σ.attempt i addr).2 with
      | .retry => Vd.veCommandGetL is (σ.attempt i addr).1 addr
      | .done r => ((σ.attempt i addr).1, r) := by
  unfold Vd.attempt
  rw [Vd.veCommandGetL]
  generalize σ.veCommand i 7 addr = c
  obtain ⟨σ1, r⟩ := c
  cases r with
  | ok raw => simp only; cases getStep addr raw <;> rfl
  | _ => rfl

/-- run attempts that must all end in `retry`; the state after them -/
def Vd.afterRetries : List Bool → Vd → Nat → Option Vd
  | [], σ, _ => some σ
  | i :: is, σ, addr =>
    match σ.attempt i addr with
    | (σ1, .retry) => Vd.afterRetries is σ1 addr
    | (_, .done _) => none

theorem Vd.afterRetries_cons {i : Bool} {is : List Bool} {σ σ' : Vd} {addr : Nat} :
    Vd.afterRetries (i :: is) σ addr = some σ' ↔
      (σ.attempt i addr).2 = .retry ∧ Vd.afterRetries is (σ.attempt i addr).1 addr = some σ' := by
  rw [Vd.afterRetries]
  generalize σ.attempt i addr = a
  obtain ⟨σ1, _ | _⟩ := a <;> simp

theorem Vd.veCommandGetL_afterRetries (pre post : List Bool) {σ σk : Vd} {addr : Nat}
    (h : Vd.afterRetries pre σ addr = some σk) :
    Vd.veCommandGetL (pre ++ post) σ addr = Vd.veCommandGetL post σk addr := by
  induction pre generalizing σ with
  | nil => simp [Vd.afterRetries] at h; subst h; rfl
  | cons i is ih =>
    obtain ⟨h1, h2⟩ := Vd.afterRetries_cons.mp h
    rw [List.cons_append, Vd.veCommandGetL_cons, h1]
    exact ih h2

theorem Vd.veCommandGetL_cases (idles : List Bool) (σ : Vd) (addr : Nat) :
    (∃ σ', Vd.afterRetries idles σ addr = some σ' ∧ Vd.veCommandGetL idles σ addr = (σ', .err .other)) ∨
    (∃ pre i post σa r, idles = pre ++ i :: post ∧ Vd.afterRetries pre σ addr = some σa ∧
      (σa.attempt i addr).2 = .done r ∧ Vd.veCommandGetL idles σ addr = ((σa.attempt i addr).1, r)) := by
  induction idles generalizing σ with
  | nil => exact .inl ⟨σ, rfl, rfl⟩
  | cons i is ih =>
    rw [Vd.veCommandGetL_cons]
    cases ha : (σ.attempt i addr).2 with
    | done r => exact .inr ⟨[], i, is, σ, r, rfl, rfl, ha, rfl⟩
    | retry =>
      rcases ih (σ.attempt i addr).1 with ⟨σ', h1, h2⟩ | ⟨pre, j, post, σa, r, h1, h2, h3, h4⟩
      · exact .inl ⟨σ', Vd.afterRetries_cons.mpr ⟨ha, h1⟩, h2⟩
      · exact .inr ⟨i :: pre, j, post, σa, r, by rw [h1]; rfl, Vd.afterRetries_cons.mpr ⟨ha, h2⟩, h3, h4⟩

theorem Vd.veCommandGetL_done {idles : List Bool} {σ σ' : Vd} {addr : Nat} {r : R Bytes}
    (h : Vd.veCommandGetL idles σ addr = (σ', r)) (hr : r ≠ .err .other) :
    ∃ pre i post σa body, idles = pre ++ i :: post ∧ Vd.afterRetries pre σ addr = some σa ∧
      σa.sendReceive i 7 (paramFor 7 addr) = (σ', some body) ∧ verdict addr (some body) = .done r := by
  rcases Vd.veCommandGetL_cases idles σ addr with ⟨_, _, h2⟩ | ⟨pre, i, post, σa, r', h1, h2, h3, h4⟩
  · rw [h] at h2; exact absurd (Prod.mk.inj h2).2 hr
  · rw [h, Vd.attempt_eq] at h4
    obtain ⟨rfl, rfl⟩ := Prod.mk.inj h4
    rw [Vd.attempt_eq] at h3
    obtain ⟨body, hs⟩ := verdict_done h3
    exact ⟨pre, i, post, σa, body, h1, h2, Prod.ext rfl hs, hs ▸ h3⟩

theorem Vd.attempt_run (σ : Vd) (i : Bool) (addr : Nat) :
    ∃ k, k ≤ 1 ∧ σ.Run (σ.attempt i addr).1 1 1 (List.replicate k (tx 7 addr)) := by
  rw [Vd.attempt_eq]
  exact ⟨_, Bool.toNat_le _, σ.sendReceive_run i 7 (paramFor 7 addr)⟩

theorem Vd.afterRetries_run {pre : List Bool} {σ σa : Vd} {addr : Nat} (h : Vd.afterRetries pre σ addr = some σa) :
    ∃ k, k ≤ pre.length ∧ σ.Run σa pre.length pre.length (List.replicate k (tx 7 addr)) := by
  induction pre generalizing σ with
  | nil => simp [Vd.afterRetries] at h; subst h; exact ⟨0, Nat.le_refl _, .refl σ⟩
  | cons i is ih =>
    obtain ⟨k1, hk1, r1⟩ := σ.attempt_run i addr
    obtain ⟨k2, hk2, r2⟩ := ih (Vd.afterRetries_cons.mp h).2
    refine ⟨k1 + k2, by simp only [List.length_cons]; omega, ?_⟩
    have := r1.trans r2
    rwa [List.replicate_append_replicate, Nat.add_comm 1] at this

theorem Vd.afterRetries_supply (pre : List Bool) (σ σa : Vd) (addr : Nat) (h : Vd.afterRetries pre σ addr = some σa) :
    (σa.pending ++ σa.port.future).Sublist (σ.pending ++ σ.port.future) :=
  let ⟨_, _, r⟩ := Vd.afterRetries_run h; r.supply

/-- **The whole call as a run**: `n ≤ idles.length` exchanges (at least one if any attempt is allowed), each handing
    the one frame `tx 7 addr` to the port or failing to -/
theorem Vd.veCommandGetL_run (idles : List Bool) (σ : Vd) (addr : Nat) :
    ∃ n k, n ≤ idles.length ∧ (idles ≠ [] → 0 < n) ∧ k ≤ n ∧
      σ.Run (Vd.veCommandGetL idles σ addr).1 n n (List.replicate k (tx 7 addr)) := by
  rcases Vd.veCommandGetL_cases idles σ addr with ⟨σ', h1, h2⟩ | ⟨pre, i, post, σa, r, rfl, h2, _, h4⟩
  · obtain ⟨k, hk, hr⟩ := Vd.afterRetries_run h1
    rw [h2]
    exact ⟨idles.length, k, Nat.le_refl _, fun h => List.length_pos_iff.mpr h, hk, hr⟩
  · obtain ⟨k1, hk1, r1⟩ := Vd.afterRetries_run h2
    obtain ⟨k2, hk2, r2⟩ := σa.attempt_run i addr
    rw [h4]
    refine ⟨pre.length + 1, k1 + k2, by simp, fun _ => Nat.succ_pos _, by omega, ?_⟩
    have := r1.trans r2
    rwa [List.replicate_append_replicate] at this

/-- **The decisive attempt.** After retried attempts, if the command goes out, no read fails and the bytes then pending
    are noise and async frames, a valid Get response for `addr` with flag `flag`, then `rest`: the call ends there with the
    frame's payload (flag 0) or the device error (any other flag), having made one Write call per attempt, and leaves
    exactly `rest` pending. -/
theorem Vd.veCommandGetL_frame (pre : List Bool) (i : Bool) (post : List Bool) {σ σk : Vd} {addr : Nat} (haddr : addr < 65536)
    {flag : Nat} (hflag : flag < 256) {payload : Bytes} (hpl : IsBytes payload) {segs : List (Bytes × Bytes)} {noise : Bytes}
    (rest : Bytes) (hpre : Vd.afterRetries pre σ addr = some σk)
    (hok : σk.sendOk i 7 (paramFor 7 addr) = true) (hrf : σk.port.rFail = [])
    (hsegs : ∀ s ∈ segs, 58 ∉ s.1 ∧ 10 ∉ s.2) (hnoise : 58 ∉ noise)
    (hpend : (σk.afterSend i 7 (paramFor 7 addr)).pending =
      (segs.map asyncSeg).flatten ++ noise ++ frameOf (getResponseBody addr flag payload) ++ rest) :
    ∃ σ', Vd.veCommandGetL (pre ++ i :: post) σ addr =
        (σ', match flagError flag with | some e => .err e | none => .ok payload) ∧
      σ'.port.nW = σ.port.nW + pre.length + 1 ∧ σ'.pending = rest := by
  obtain ⟨hnl, hA⟩ := getResponseBody_shape addr hflag hpl
  obtain ⟨h1, h2⟩ := σk.sendReceive_scan i 7 (paramFor 7 addr) hok hrf
  rw [hpend, append_frameOf, scanAll_skip segs noise _ rest hsegs hnoise hnl hA] at h1 h2
  obtain ⟨_, _, r1⟩ := Vd.afterRetries_run hpre
  have r2 := σk.sendReceive_run i 7 (paramFor 7 addr)
  refine ⟨(σk.sendReceive i 7 (paramFor 7 addr)).1, ?_, by rw [r2.nW, r1.nW], h2⟩
  rw [Vd.veCommandGetL_afterRetries pre _ hpre, Vd.veCommandGetL_cons, Vd.attempt_eq, h1,
    verdict_response addr addr haddr hflag hpl, if_neg (by simp)]
  rfl

theorem idles8_length (idles : List Bool) : (idles8 idles).length = 8 := by
  simp [idles8, numbTries]

/-- the form `[] ++ i :: post` in which `veCommandGetL_frame` takes a first attempt -/
theorem idles8_cons_head (i : Bool) (idles : List Bool) : idles8 (i :: idles) = i :: (idles8 (i :: idles)).tail := by
  simp [idles8, numbTries]

/-- eight attempts: a first one and more behind it -/
theorem idles8_eq_cons (idles : List Bool) : ∃ i is, idles8 idles = i :: is ∧ is ≠ [] := by
  have := idles8_length idles
  match h : idles8 idles with
  | [] => simp [h] at this
  | [_] => simp [h] at this
  | i :: j :: is => exact ⟨i, j :: is, rfl, by simp⟩

theorem Vd.veCommandGet_access (σ : Vd) (idles : List Bool) (addr : Nat) :
    σ.Access (σ.veCommandGet idles addr).1 (tx 7 addr) := by
  obtain ⟨n, k, h1, h2, h3, h4⟩ := Vd.veCommandGetL_run (idles8 idles) σ addr
  rw [idles8_length] at h1
  exact ⟨n, k, h1, h2 (by intro h; simpa [h] using idles8_length idles), h3, h4⟩

end Victron
