import Victron.Model.Cli
import Victron.Spec.ListSpec
import Victron.Proofs.Lists
/- helper lemmas for C20: looking registers up by name, the output of `Cli.run` as a function of the stream's result -/
namespace Victron
open Victron.Cli

theorem find_by_name (l : List Reg) (hnd : (l.map (·.name)).Nodup) (r : Reg) (hr : r ∈ l) :
    l.find? (·.name == r.name) = some r := by
  -- what stands before `r` has another name
  obtain ⟨as, bs, rfl⟩ := List.append_of_mem hr
  rw [List.map_append, List.nodup_append] at hnd
  refine List.find?_eq_some_iff_append.mpr ⟨by simp, as, bs, rfl, fun a ha => ?_⟩
  simpa using hnd.2.2 a.name (List.mem_map_of_mem ha) r.name (by simp)

theorem ListSpec.noDup_nodup {α} [DecidableEq α] (l : List α) (h : ListSpec.noDup l = true) : l.Nodup := by
  induction l with
  | nil => exact List.nodup_nil
  | cons a t ih =>
    simp only [ListSpec.noDup, Bool.and_eq_true, Bool.not_eq_true', List.contains_eq_mem, decide_eq_false_iff_not] at h
    exact List.nodup_cons.mpr ⟨h.1, ih h.2⟩

theorem ListSpec.listOk_names_nodup {rl : RegList} (h : ListSpec.listOk rl = true) : (rl.all.map (·.name)).Nodup := by
  simp only [ListSpec.listOk, Bool.and_eq_true] at h
  exact ListSpec.noDup_nodup _ h.1.1.1.1.1  -- the first conjunct of `listOk`

theorem Cli.mem_linesOf {rl : RegList} {vals : List (String × Val)} {l : Line} :
    l ∈ linesOf rl vals ↔ ∃ p ∈ vals, ∃ r, rl.all.find? (·.name == p.1) = some r ∧ Line.mk r.sort p.1 p.2 r.unit = l := by
  unfold linesOf
  rw [(List.mergeSort_perm _ _).mem_iff]
  simp only [List.mem_filterMap, Option.map_eq_some_iff]

theorem Cli.linesOf_complete (rl : RegList) (vals : Reg → Val) (hnd : (rl.all.map (·.name)).Nodup) :
    linesOf rl (rl.all.map fun r => (r.name, vals r)) =
      (rl.all.map fun r => Line.mk r.sort r.name (vals r) r.unit).mergeSort fun a b => decide (a.sort ≤ b.sort) := by
  unfold linesOf
  rw [filterMap_map_some]
  intro r hr
  simp [find_by_name rl.all hnd r hr]

theorem Cli.run_connected {tr : Transport} {products : List ProductRow} {types : List TypeRow} {fam : Families}
    {id : Nat} {rl : RegList} (hc : connect tr products types fam = .ok (id, rl)) (enums fls : List EnumTable) :
    Cli.run tr products types fam enums fls =
      if (stream tr enums fls none rl {}).2 = none then
        ⟨.ok, some (linesOf rl (collect (stream tr enums fls none rl {}).1)).length,
          linesOf rl (collect (stream tr enums fls none rl {}).1)⟩
      else ⟨.fetchError, some 0, []⟩ := by
  unfold Cli.run
  rw [hc]
  simp only
  rcases stream tr enums fls none rl {} with ⟨evs, _ | e⟩ <;> rfl

theorem Cli.run_not_connected {tr : Transport} {products : List ProductRow} {types : List TypeRow} {fam : Families}
    (hc : (connect tr products types fam).isOk = false) (enums fls : List EnumTable) :
    Cli.run tr products types fam enums fls = ⟨.connectError, none, []⟩ := by
  unfold Cli.run
  cases h : connect tr products types fam with
  | ok v => rw [h] at hc; cases hc
  | err e => rfl
  | panic => rfl

end Victron
