import Victron.Basic.Bytes
/- helper lemmas about hex encoding, little-endian numbers and the checksum -/
namespace Victron

theorem hexDigit_upper {n : Nat} (h : n < 16) : isUpperHexDigit (hexDigit n) = true := by
  unfold isUpperHexDigit hexDigit
  split <;> simp <;> omega

theorem unhexDigit_hexDigit {n : Nat} (h : n < 16) : unhexDigit (hexDigit n) = some n := by
  unfold unhexDigit hexDigit
  by_cases h10 : n < 10
  · rw [if_pos h10, if_pos (by omega)]; congr 1; omega
  · rw [if_neg h10, if_neg (by omega), if_pos (by omega)]; congr 1; omega

theorem unhex_hexByte_cons {b : Nat} (hb : b < 256) (rest : Bytes) :
    unhex (hexByte b ++ rest) = (unhex rest).map (b :: ·) := by
  have h1 : b / 16 < 16 := by omega
  have h2 : b % 16 < 16 := by omega
  simp only [hexByte, List.cons_append, List.nil_append, unhex, unhexDigit_hexDigit h1, unhexDigit_hexDigit h2]
  cases unhex rest with
  | none => rfl
  | some r => simp; omega

theorem hexBytes_cons (b : Nat) (bs : Bytes) : hexBytes (b :: bs) = hexByte b ++ hexBytes bs := by
  simp [hexBytes]

theorem unhex_hexBytes {bs : Bytes} (h : IsBytes bs) : unhex (hexBytes bs) = some bs := by
  induction bs with
  | nil => rfl
  | cons b bs ih => rw [hexBytes_cons, unhex_hexByte_cons h.head, ih h.tail]; rfl

theorem hexBytes_append (a b : Bytes) : hexBytes (a ++ b) = hexBytes a ++ hexBytes b := by
  simp [hexBytes, List.flatMap_append]

theorem hexBytes_length (bs : Bytes) : (hexBytes bs).length = 2 * bs.length := by
  simp [hexBytes, List.length_flatMap, hexByte, List.map_const', Nat.mul_comm]

theorem hexByte_upper {b : Nat} (hb : b < 256) : ∀ d ∈ hexByte b, isUpperHexDigit d = true := by
  intro d hd
  simp only [hexByte, List.mem_cons, List.not_mem_nil, or_false] at hd
  rcases hd with rfl | rfl <;> exact hexDigit_upper (by omega)

theorem hexBytes_upper {bs : Bytes} (h : IsBytes bs) : ∀ d ∈ hexBytes bs, isUpperHexDigit d = true := by
  intro d hd
  obtain ⟨b, hb, hd⟩ := List.mem_flatMap.mp hd
  exact hexByte_upper (h b hb) d hd

theorem hexByte_ne (b x : Nat) (hx : isUpperHexDigit x = false) : x ∉ hexByte b ∨ ¬ b < 256 := by
  by_cases hb : b < 256
  · exact .inl fun hm => by simp [hexByte_upper hb x hm] at hx
  · exact .inr hb

theorem not_mem_hexBytes {bs : Bytes} (h : IsBytes bs) {x : Nat} (hx : isUpperHexDigit x = false) : x ∉ hexBytes bs :=
  fun hm => by simp [hexBytes_upper h x hm] at hx

theorem unhexDigit_lt {c x : Nat} (h : unhexDigit c = some x) : x < 16 := by
  unfold unhexDigit at h
  split at h
  · simp at h; omega
  · split at h
    · simp at h; omega
    · split at h
      · simp at h; omega
      · simp at h

/-- what `hex.Decode` returns: one byte per two digits -/
theorem unhex_spec : ∀ {ds bs : Bytes}, unhex ds = some bs → ds.length = 2 * bs.length ∧ IsBytes bs
  | [], bs, h => by simp [unhex] at h; subst h; exact ⟨rfl, IsBytes.nil⟩
  | [_], bs, h => by simp [unhex] at h
  | a :: b :: rest, bs, h => by
    simp only [unhex] at h
    cases hx : unhexDigit a <;> cases hy : unhexDigit b <;> cases hr : unhex rest <;> simp [hx, hy, hr] at h
    subst h
    have ⟨hl, hb⟩ := unhex_spec hr
    have h1 := unhexDigit_lt hx
    have h2 := unhexDigit_lt hy
    exact ⟨by simp; omega, IsBytes.cons (by omega) hb⟩

theorem leNat_lt (bs : Bytes) (h : IsBytes bs) : leNat bs < 256 ^ bs.length := by
  induction bs with
  | nil => simp [leNat]
  | cons b bs ih =>
    have hb := h.head
    have := ih h.tail
    simp only [leNat, List.length_cons, Nat.pow_succ]
    omega

theorem leNat_append (a b : Bytes) : leNat (a ++ b) = leNat a + 256 ^ a.length * leNat b := by
  induction a with
  | nil => simp [leNat]
  | cons x t ih =>
    simp only [List.cons_append, leNat, ih, List.length_cons, Nat.pow_succ]
    rw [Nat.mul_add, Nat.add_assoc, ← Nat.mul_assoc, Nat.mul_comm 256 (256 ^ t.length)]

/-- `k` bytes are one digit in base `256 ^ k`: the first `k` bytes are the remainder, the others the quotient -/
theorem leNat_take_drop (l : Bytes) (hb : IsBytes l) (k : Nat) :
    leNat (l.take k) = leNat l % 256 ^ k ∧ leNat (l.drop k) = leNat l / 256 ^ k := by
  have h := leNat_append (l.take k) (l.drop k)
  have hlt := leNat_lt (l.take k) (hb.take k)
  rw [List.take_append_drop] at h
  by_cases hk : k ≤ l.length
  · rw [List.length_take, Nat.min_eq_left hk] at h hlt
    rw [h, Nat.add_mul_mod_self_left, Nat.mod_eq_of_lt hlt, Nat.add_mul_div_left _ _ (Nat.pow_pos (by decide)),
      Nat.div_eq_of_lt hlt, Nat.zero_add]
    exact ⟨rfl, rfl⟩
  · have : leNat l < 256 ^ k := Nat.lt_of_lt_of_le (leNat_lt l hb) (Nat.pow_le_pow_right (by decide) (by omega))
    rw [List.take_of_length_le (by omega), List.drop_of_length_le (by omega), Nat.mod_eq_of_lt this, Nat.div_eq_of_lt this]
    exact ⟨rfl, rfl⟩

theorem leUint_lt (bs : Bytes) (h : IsBytes bs) : leUint bs < 2 ^ 64 := by
  rw [leUint, (leNat_take_drop bs h 8).1]; exact Nat.mod_lt _ (by decide)

theorem leNat_encodeLE (w v : Nat) : leNat (encodeLE w v) = v % 256 ^ w := by
  induction w generalizing v with
  | zero => simp [encodeLE, leNat, Nat.mod_one]
  | succ w ih =>
    simp only [encodeLE, leNat, ih, Nat.pow_succ]
    rw [Nat.mul_comm (256 ^ w) 256, Nat.mod_mul]

theorem encodeLE_length (w v : Nat) : (encodeLE w v).length = w := by
  induction w generalizing v with
  | zero => rfl
  | succ w ih => simp [encodeLE, ih]

theorem encodeLE_isBytes (w v : Nat) : IsBytes (encodeLE w v) := by
  induction w generalizing v with
  | zero => exact IsBytes.nil
  | succ w ih => exact IsBytes.cons (by omega) (ih _)

theorem sum_map_mod_le (data : Bytes) : (data.map (· % 256)).sum ≤ 255 * data.length := by
  induction data with
  | nil => simp
  | cons b bs ih => simp only [List.map_cons, List.sum_cons, List.length_cons]; omega

theorem map_mod_of_isBytes {data : Bytes} (h : IsBytes data) : data.map (· % 256) = data :=
  (List.map_congr_left fun b hb => Nat.mod_eq_of_lt (h b hb)).trans (List.map_id' data)

theorem checksum_lt (cmd : Nat) (data : Bytes) : checksum cmd data < 256 := by
  unfold checksum; omega

theorem IsBytes.append_checksum {data : Bytes} (h : IsBytes data) (cmd : Nat) : IsBytes (data ++ [checksum cmd data]) :=
  h.append (IsBytes.cons (checksum_lt cmd data) IsBytes.nil)

theorem checksum_sum (cmd : Nat) (data : Bytes) (h : IsBytes data) :
    (cmd + data.sum + checksum cmd data) % 256 = 0x55 := by
  unfold checksum
  rw [map_mod_of_isBytes h]
  have := sum_map_mod_le data
  rw [map_mod_of_isBytes h] at this
  omega

theorem checksum_unique (cmd : Nat) (data : Bytes) (h : IsBytes data) (c : Nat) (hc : c < 256)
    (hs : (cmd % 256 + data.sum + c) % 256 = 0x55) : c = checksum cmd data := by
  have := checksum_sum cmd data h
  have := checksum_lt cmd data
  omega

end Victron
