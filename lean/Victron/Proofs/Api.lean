import Victron.Model.Api
/- The equations of `streamL` (Model/Api.lean) before one register; `collect` as a fold of a named step -/
namespace Victron

section streamL
variable {tr : Transport} {enums fls : List EnumTable} {cancelAt : Option Nat} {r : Reg} {rest : List Reg} {started : Nat}

theorem cancelled_some (k started : Nat) : cancelled (some k) started = decide (k ≤ started) := rfl

theorem streamL_cancelled (hc : cancelled cancelAt started = true) :
    streamL tr enums fls cancelAt (r :: rest) started = ([], some (.ctxDone, "")) := by
  simp [streamL, hc]

theorem streamL_ok {v : Val} (hc : cancelled cancelAt started = false) (hv : readReg tr enums fls r = .ok v) :
    streamL tr enums fls cancelAt (r :: rest) started =
      (.read r.address :: .cb r.name v :: (streamL tr enums fls cancelAt rest (started + 1)).1,
       (streamL tr enums fls cancelAt rest (started + 1)).2) := by
  simp [streamL, hc, hv]

theorem streamL_err {e : Err} {n : String} (hc : cancelled cancelAt started = false)
    (hv : readReg tr enums fls r = .err e n) :
    streamL tr enums fls cancelAt (r :: rest) started = ([.read r.address], some (e, n)) := by
  simp [streamL, hc, hv]

theorem streamL_fail (hc : cancelled cancelAt started = false) (hv : ∀ v, readReg tr enums fls r ≠ .ok v) :
    ∃ e, streamL tr enums fls cancelAt (r :: rest) started = ([.read r.address], some e) := by
  cases h : readReg tr enums fls r with
  | ok v => exact absurd h (hv v)
  | err e n => exact ⟨_, streamL_err hc h⟩
  | panic => exact ⟨(.other, "PANIC"), by simp [streamL, hc, h]⟩

end streamL

/-- one event folded into the map built so far: the step function of `collect` -/
def collectStep (acc : List (String × Val)) : Ev → List (String × Val)
  | .cb name v => acc.filter (fun p => p.1 != name) ++ [(name, v)]
  | .read _ => acc

theorem collect_eq_foldl (evs : List Ev) : collect evs = evs.foldl collectStep [] := rfl

@[simp] theorem collectStep_cb (acc : List (String × Val)) (n : String) (v : Val) :
    collectStep acc (.cb n v) = acc.filter (fun p => p.1 != n) ++ [(n, v)] := rfl

@[simp] theorem collectStep_read (acc : List (String × Val)) (a : Nat) : collectStep acc (.read a) = acc := rfl

end Victron
