import Victron.Spec.BleLayouts
import Victron.Proofs.Hex
/- facts about bit slices and the layout decoder that hold for every input and layout: a slice only sees the bytes it
   covers, locality of a field, independence of trailing bytes -/
namespace Victron.BleSpec
open Victron Victron.Ble

/-- what lies above bit `s + w` does not matter to the slice `/ 2 ^ s % 2 ^ w` -/
theorem mod_pow_div_mod (x s w n : Nat) (h : s + w ≤ n) : x % 2 ^ n / 2 ^ s % 2 ^ w = x / 2 ^ s % 2 ^ w := by
  obtain ⟨d, rfl⟩ : ∃ d, n = s + (w + d) := ⟨n - s - w, by omega⟩
  rw [Nat.pow_add, Nat.mod_mul_right_div_self, Nat.pow_add, Nat.mod_mul_right_mod]

/-- a bit slice that ends inside `inp` does not see what is appended to `inp` -/
theorem bits_append (inp suf : Bytes) (s w : Nat) (h : s + w ≤ 8 * inp.length) :
    bits (inp ++ suf) s w = bits inp s w := by
  unfold bits
  rw [leNat_append, show (256 : Nat) = 2 ^ 8 from rfl, ← Nat.pow_mul, ← mod_pow_div_mod _ s w _ h,
    Nat.add_mul_mod_self_left, mod_pow_div_mod _ s w _ h]

/-- The slice `[s, s + w)` lies in the `⌈(s % 8 + w) / 8⌉` bytes from byte `s / 8` on: the bytes before them are divided
    away (`2 ^ s = 256 ^ (s / 8) * 2 ^ (s % 8)`), the bytes after them are cut off by the modulus. -/
theorem bits_window (inp : Bytes) (hb : IsBytes inp) (s w : Nat) :
    bits inp s w = leNat ((inp.drop (s / 8)).take ((s % 8 + w + 7) / 8)) / 2 ^ (s % 8) % 2 ^ w := by
  unfold bits
  rw [(leNat_take_drop _ (hb.drop _) _).1, (leNat_take_drop _ hb _).2, show (256 : Nat) = 2 ^ 8 from rfl, ← Nat.pow_mul,
    ← Nat.pow_mul, mod_pow_div_mod _ _ _ _ (by omega), Nat.div_div_eq_div_mul, ← Nat.pow_add, Nat.div_add_mod]

/-- `bits_window` as the decoder proofs use it: a slice of whole bytes is the value of those bytes, with no `/` or `%`
    around it. The Go code as it stands agrees in this (it shifts and masks every field it cuts out of a wider read, and
    no other), so that most fields come out as the same term on both sides. With literal `s`, `w` the test reduces. -/
theorem bits_window_ite (inp : Bytes) (hb : IsBytes inp) (s w : Nat) :
    bits inp s w =
      if s % 8 = 0 ∧ w % 8 = 0 then leNat ((inp.drop (s / 8)).take (w / 8))
      else leNat ((inp.drop (s / 8)).take ((s % 8 + w + 7) / 8)) / 2 ^ (s % 8) % 2 ^ w := by
  rw [bits_window inp hb]
  split
  · rename_i h
    -- `w / 8` bytes are a value below `256 ^ (w / 8) = 2 ^ w`
    rw [h.1, Nat.pow_zero, Nat.div_one, show (0 + w + 7) / 8 = w / 8 by omega,
      (leNat_take_drop _ (hb.drop _) _).1, show (256 : Nat) = 2 ^ 8 from rfl, ← Nat.pow_mul,
      Nat.mul_div_cancel' (Nat.dvd_of_mod_eq_zero h.2), Nat.mod_mod]
  · rfl

/-- The window byte by byte, top byte first, so that the sum comes out flat (`b₀ + 256 * b₁ + 65536 * b₂ + …`) as the
    translated `binary.LittleEndian` reads write it. This is where the atoms `inp.getD k 0 % 256` of the decoder proofs
    come from: the `% 256` is the identity on a byte and tells `omega` the range. -/
theorem leNat_take_succ_drop (inp : Bytes) (hb : IsBytes inp) (k n : Nat) :
    leNat ((inp.drop k).take (n + 1)) = leNat ((inp.drop k).take n) + 256 ^ n * (inp.getD (k + n) 0 % 256) := by
  rw [List.take_add_one, leNat_append, List.getElem?_drop, List.getD_eq_getElem?_getD]
  cases h : inp[k + n]? with
  | none => simp [leNat]
  | some b =>
    have hlt : k + n < inp.length := (List.getElem?_eq_some_iff.mp h).1
    have hb' : b < 256 := hb b (List.mem_of_getElem? h)
    simp [leNat, Nat.mod_eq_of_lt hb', Nat.min_eq_left (show n ≤ inp.length - k by omega)]

theorem any_congr_mem {α} (l : List α) (p q : α → Bool) (h : ∀ a ∈ l, p a = q a) : l.any p = l.any q := by
  induction l with
  | nil => rfl
  | cons x t ih =>
    simp only [List.any_cons]
    rw [h x (by simp), ih (fun a ha => h a (by simp [ha]))]

/-- **Locality.** A field depends on the input only through its own bit slice [start, start+width) and,
    for mode-dependent fields, the aux-input bits: bits outside a field never influence that field. -/
theorem field_locality (inp inp' : Bytes) (aux aux' : Nat) (r : Row)
    (hv : bits inp r.start r.width = bits inp' r.start r.width) (ha : r.aux ≠ none → aux = aux') :
    evalRow inp aux r = evalRow inp' aux' r := by
  unfold evalRow
  rw [hv]
  cases hr : r.aux with
  | none => rfl
  | some m => rw [ha (by simp [hr])]

/-- every row lies inside the record and so does the aux input -/
def within (L : Layout) : Bool :=
  L.rows.all (fun r => r.start + r.width ≤ 8 * L.n) && decide (L.auxAt + 2 ≤ 8 * L.n)

/-- The layout decoder sees the input only through the length test, the slices of its rows and the aux input. -/
theorem decode_congr (L : Layout) {inp inp' : Bytes} (hlen : inp.length < L.n ↔ inp'.length < L.n)
    (hb : ∀ r ∈ L.rows, bits inp r.start r.width = bits inp' r.start r.width)
    (ha : bits inp L.auxAt 2 = bits inp' L.auxAt 2) : decode L inp = decode L inp' := by
  have hbad : badEnum inp L.rows = badEnum inp' L.rows :=
    any_congr_mem _ _ _ fun r hr => by rw [hb r hr]
  have hrows : L.rows.map (fun r => (r.name, evalRow inp (bits inp L.auxAt 2) r)) =
      L.rows.map (fun r => (r.name, evalRow inp' (bits inp' L.auxAt 2) r)) :=
    List.map_congr_left fun r hr => by rw [field_locality inp inp' _ _ r (hb r hr) fun _ => ha]
  simp only [decode, hlen, hbad, hrows]

/-- **Trailing bytes.** For an input at least as long as the record, the result does not depend on the
    bytes after the record. -/
theorem decode_append (L : Layout) (hL : within L = true) (inp suf : Bytes) (hlen : L.n ≤ inp.length) :
    decode L (inp ++ suf) = decode L inp := by
  simp only [within, Bool.and_eq_true, decide_eq_true_eq, List.all_eq_true] at hL
  refine decode_congr L (by simp; omega) (fun r hr => bits_append inp suf _ _ ?_) (bits_append inp suf _ _ (by omega))
  have := hL.1 r hr
  omega

/-! `decode` is two tests in front of a record: each of the three facts is read off the four cases. -/

theorem decode_ne_panic (L : Layout) (inp : Bytes) : decode L inp ≠ .panic := by
  by_cases hl : inp.length < L.n <;> by_cases hb : badEnum inp L.rows = true <;> simp [decode, hl, hb]

theorem decode_tooShort_iff (L : Layout) (inp : Bytes) : decode L inp = .err .tooShort ↔ inp.length < L.n := by
  by_cases hl : inp.length < L.n <;> by_cases hb : badEnum inp L.rows = true <;> simp [decode, hl, hb]

theorem decode_invalidEnum_iff (L : Layout) (inp : Bytes) :
    decode L inp = .err .invalidEnum ↔ ¬ inp.length < L.n ∧ badEnum inp L.rows = true := by
  by_cases hl : inp.length < L.n <;> by_cases hb : badEnum inp L.rows = true <;> simp [decode, hl, hb]

end Victron.BleSpec

namespace Victron.Ble

/-- `sx` in the familiar form, at every width: `v` below 2^(w-1) and `v - 2^w` from there on -/
theorem sx_eq_ite (w v : Nat) (hw : 0 < w) (hv : v < 2 ^ w) :
    sx w v = if v < 2 ^ (w - 1) then (v : Int) else (v : Int) - 2 ^ w := by
  obtain ⟨k, rfl⟩ : ∃ k, w = k + 1 := ⟨w - 1, by omega⟩
  have hc : ((2 ^ k : Nat) : Int) = 2 ^ k := by simp
  simp only [sx, Nat.add_sub_cancel, Int.pow_succ, Nat.pow_succ] at hv ⊢
  rw [← hc]
  generalize 2 ^ k = p at hv ⊢
  split
  · rw [Int.emod_eq_of_lt (by omega) (by omega)]; omega
  · rw [show (v : Int) + p = (v - p : Int) + p * 2 by omega, Int.add_emod_right,
      Int.emod_eq_of_lt (by omega) (by omega)]
    omega

end Victron.Ble
