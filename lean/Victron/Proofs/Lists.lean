import Victron.Basic.Bytes
/- facts about core's lists that the properties need: stable sorting by an integer key, blocks of equal length,
   XOR with a key stream -/
namespace Victron

section sortKey
variable {α : Type} (key : α → Int)

theorem keyLe_trans (a b c : α) (h1 : decide (key a ≤ key b) = true) (h2 : decide (key b ≤ key c) = true) :
    decide (key a ≤ key c) = true := by
  simp only [decide_eq_true_eq] at *; omega

theorem keyLe_total (a b : α) : (decide (key a ≤ key b) || decide (key b ≤ key a)) = true := by
  simp only [Bool.or_eq_true, decide_eq_true_eq]; omega

theorem pairwise_mergeSort_key (l : List α) :
    (l.mergeSort fun a b => decide (key a ≤ key b)).Pairwise fun a b => key a ≤ key b := by
  simpa using List.pairwise_mergeSort (keyLe_trans key) (keyLe_total key) l

theorem sublist_mergeSort_key {c l : List α} (hc : c.Sublist l) (hs : c.Pairwise fun a b => key a ≤ key b) :
    c.Sublist (l.mergeSort fun a b => decide (key a ≤ key b)) :=
  List.sublist_mergeSort (keyLe_trans key) (keyLe_total key) (by simpa using hs) hc

end sortKey

theorem filterMap_map_some {α β γ} (l : List α) (g : α → β) (h : β → Option γ) (k : α → γ)
    (hk : ∀ a ∈ l, h (g a) = some (k a)) : (l.map g).filterMap h = l.map k := by
  induction l with
  | nil => rfl
  | cons a as ih => simp [hk a (by simp), ih (fun x hx => hk x (by simp [hx]))]

theorem length_range_flatMap {α} (f : Nat → List α) (c : Nat) (hf : ∀ i, (f i).length = c) (n : Nat) :
    ((List.range n).flatMap f).length = n * c := by
  simp [List.length_flatMap, hf, List.map_const']

theorem take_range_flatMap {α} (f : Nat → List α) (c : Nat) (hf : ∀ i, (f i).length = c) {a b : Nat} (h : a ≤ b) :
    ((List.range b).flatMap f).take (a * c) = (List.range a).flatMap f := by
  obtain ⟨d, rfl⟩ := Nat.exists_eq_add_of_le h
  rw [List.range_add, List.flatMap_append]
  exact List.take_left' (length_range_flatMap f c hf a)

theorem zipWith_xor_cancel (a ks : List Nat) (h : a.length ≤ ks.length) :
    List.zipWith (· ^^^ ·) (List.zipWith (· ^^^ ·) a ks) ks = a := by
  induction a generalizing ks with
  | nil => rfl
  | cons x t ih =>
    cases ks with
    | nil => simp at h
    | cons k ks => simp [Nat.xor_assoc, ih ks (by simpa using h)]

theorem zipWith_xor_isBytes {a ks : Bytes} (ha : IsBytes a) (hk : IsBytes ks) : IsBytes (List.zipWith (· ^^^ ·) a ks) := by
  induction a generalizing ks with
  | nil => exact IsBytes.nil
  | cons x t ih =>
    cases ks with
    | nil => exact IsBytes.nil
    | cons k ks => exact IsBytes.cons (Nat.xor_lt_two_pow (n := 8) ha.head hk.head) (ih ha.tail hk.tail)

end Victron
