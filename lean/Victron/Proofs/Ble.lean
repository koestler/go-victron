import Victron.Proofs.BleGeneric
/-
  What the thirteen conformance proofs of Props/C07.lean share. A translated decoder (`Gen.Ble.decodeX`) and the layout
  decoder (`BleSpec.decode`) are both brought into the form `R.ok [(name, value), …]` over the atoms
  `inp.getD k 0 % 256`: the generated side by the lemmas about `at'`, the bounds checks and the idioms below, the layout
  side by `BleSpec.bits_window` (`layout_bytes`); then the records are compared field by field (`field_goals`).
-/
namespace Victron.Ble
open Victron Victron.BleSpec

/-- a factory that is not an enumeration (a field-list factory) never rejects -/
theorem enumOk_of_none (enums : List EnumTable) (name : String) (v : Int)
    (h : enums.find? (fun T => T.name == name) = none) : enumOk enums name v = true := by
  simp [enumOk, h]

/-! The generated side above the record length `n`. The side conditions `k < n`, `k ≤ n` are between literals: `simp`
    decides them (`Nat.reduceLT`, `Nat.reduceLeDiff`); `omega` as discharger costs six times the rest of the step. -/
section
variable {α : Type} {inp spare : Bytes} {n k : Nat}

theorem at'_of_lt (hb : IsBytes inp) (hn : n ≤ inp.length) (hk : k < n) :
    at' inp spare k = ((inp.getD k 0 % 256 : Nat) : Int) := by
  have h := Nat.lt_of_lt_of_le hk hn
  unfold at'
  rw [List.getD_eq_getElem?_getD, List.getElem?_append_left h, List.getD_eq_getElem?_getD,
    List.getElem?_eq_getElem h, Option.getD_some, Nat.mod_eq_of_lt (hb _ (List.getElem_mem h))]

theorem len_check (hn : n ≤ inp.length) (hk : k ≤ n) (x : R α) :
    (if ¬ (k ≤ inp.length) then R.panic else x) = x :=
  if_neg (fun h => h (Nat.le_trans hk hn))

theorem cap_check (hn : n ≤ inp.length) (hk : k ≤ n) (x : R α) :
    (if ¬ (k ≤ inp.length + spare.length) then R.panic else x) = x :=
  if_neg (fun h => h (Nat.le_trans hk (Nat.le_trans hn (Nat.le_add_right _ _))))

end

/-! Idioms of the translated code, each brought to the layout's form by a lemma about variables that a decoder proof
    instantiates where the Go code has the idiom (side conditions between literals); `omega` would get there too, at
    several times the cost. First: a read wider than the slice it is cut down to (`binary.LittleEndian.Uint32` for a
    22-bit field) — a byte that lies wholly above the slice `/ d % m` does not matter. -/

theorem add_mul_ediv_emod (x y c d m : Int) (hc : c % (d * m) = 0) (hd : 0 < d) : (x + c * y) / d % m = x / d % m := by
  obtain ⟨k, rfl⟩ := Int.dvd_of_emod_eq_zero hc
  rw [Int.mul_assoc, Int.mul_assoc, Int.add_mul_ediv_left _ _ (Int.ne_of_gt hd), Int.add_mul_emod_self_left]

theorem add_mul_emod (x y c m : Int) (hc : c % m = 0) : (x + c * y) % m = x % m := by
  obtain ⟨k, rfl⟩ := Int.dvd_of_emod_eq_zero hc
  rw [Int.mul_assoc, Int.add_mul_emod_self_left]

/-- conversion to `intN` is the identity on the range of `intN` -/
theorem wrapS_eq_self (n : Nat) (hn : 0 < n) (x : Int) (lo : -2 ^ (n - 1) ≤ x) (hi : x < 2 ^ (n - 1)) : wrapS n x = x := by
  obtain ⟨k, rfl⟩ : ∃ k, n = k + 1 := ⟨n - 1, by omega⟩
  simp only [wrapS, Nat.add_sub_cancel, Int.pow_succ] at lo hi ⊢
  rw [Int.emod_eq_of_lt (by omega) (by omega)]
  omega

/-- `int16(v & 0x7F) - 40`: an offset taken in a signed type that holds the masked value and the difference (the side
    conditions as one conjunction between literals, for one `by decide` at the call) -/
theorem wrapS_emod_sub (n : Nat) (m c : Int) (h : 0 < n ∧ 0 < m ∧ c ≤ 2 ^ (n - 1) ∧ m - c ≤ 2 ^ (n - 1)) (x : Int) :
    wrapS n (x % m - c) = x % m - c := by
  have := Int.emod_nonneg x (Int.ne_of_gt h.2.1)
  have := Int.emod_lt_of_pos x h.2.1
  exact wrapS_eq_self n h.1 _ (by omega) (by omega)

/-- `-int32(v & 0xFFFFF)`: the negation of a masked value in a signed type that holds it -/
theorem wrapS_neg_emod (n : Nat) (m : Int) (h : 0 < n ∧ 0 < m ∧ m ≤ 2 ^ (n - 1)) (x : Int) :
    wrapS n (-(x % m)) = -(x % m) := by
  have := Int.emod_nonneg x (Int.ne_of_gt h.2.1)
  have := Int.emod_lt_of_pos x h.2.1
  exact wrapS_eq_self n h.1 _ (by omega) (by omega)

/-- `int32(v << k) >> k` is the sign extension of the low `32 - k` bits; `p` is the literal `2 ^ k` -/
theorem wrapS_shift (n k : Nat) (p : Int) (hp : p = 2 ^ k) (hk : k < n) (x : Int) :
    wrapS n (x * p) / p = wrapS (n - k) x := by
  obtain ⟨w, rfl⟩ : ∃ w, n = w + 1 + k := ⟨n - k - 1, by omega⟩
  have hK : (0 : Int) < 2 ^ k := Int.pow_pos (by decide)
  simp only [hp, wrapS, Nat.add_sub_cancel, show w + 1 + k - 1 = w + k by omega, Int.pow_add]
  rw [← Int.add_mul, Int.mul_comm _ (2 ^ k), Int.mul_comm _ (2 ^ k), Int.mul_emod_mul_of_pos _ _ hK,
    Int.mul_comm (2 ^ w) (2 ^ k), ← Int.mul_sub, Int.mul_ediv_cancel_left _ (Int.ne_of_gt hK)]

/-! A Go `switch` on the aux mode is translated path by path: a field set only in `case b` comes out as
    `if x = a then d else if x = b ∧ ¬ x = a then v else d`, with `d` what the field holds before the `switch`. A case that
    leaves `d` in place can be skipped, and of two distinct constants the tag equals at most one (`h` is between
    literals: `Int.reduceEq`, `not_false_eq_true`); what remains is the layout's `if x = b then v else d`. -/

theorem ite_skip {α} {c c' : Prop} [Decidable c] [Decidable c'] (d v : α) :
    (if c then d else if c' then v else d) = if c' ∧ ¬ c then v else d := by
  by_cases h : c <;> simp [h]

theorem eq_and_not_eq {α} {x a b : α} (h : ¬ a = b) : (x = a ∧ ¬ x = b) ↔ x = a :=
  and_iff_left_of_imp fun ha hb => h (ha ▸ hb)

theorem eq_and_not_or {α} {x a b : α} {p : Prop} (h : ¬ a = b) : (x = a ∧ ¬ (x = b ∨ p)) ↔ x = a ∧ ¬ p := by
  rw [not_or, ← and_assoc, eq_and_not_eq h]

/-! An equation between `if`-nests says that the conditions and the leaves agree. -/

theorem ite_eq_iff_imp {α} {c : Prop} [Decidable c] {a b x : α} :
    (if c then a else b) = x ↔ (c → a = x) ∧ (¬ c → b = x) := by
  by_cases h : c <;> simp [h]

theorem eq_ite_iff_imp {α} {c : Prop} [Decidable c] {a b x : α} :
    x = (if c then a else b) ↔ (c → x = a) ∧ (¬ c → x = b) := by
  by_cases h : c <;> simp [h]

/-- The layout side of `decode L inp` (length test passed: `hn`) in terms of bytes: the rows are evaluated one by one and
    every `bits inp s w`, `s` and `w` literals, becomes `b₀ + 256 * b₁ + 65536 * b₂ + …`, followed by `/ 2 ^ (s % 8) % 2 ^ w`
    unless the slice is whole bytes, with `bᵢ = inp.getD (s / 8 + i) 0 % 256`: the sum as the translated
    `binary.LittleEndian` reads write it. -/
macro "layout_bytes " L:ident hb:ident hn:ident : tactic => `(tactic|
  simp only [decode, $L:ident, cell, Nat.not_lt.mpr $hn, badEnum, evalRow, List.map, List.any, ↓reduceIte,
    Bool.or_false, Bool.or_self, Bool.false_eq_true,
    bits_window_ite _ $hb, leNat_take_succ_drop _ $hb, List.take_zero, leNat,
    Nat.reduceDiv, Nat.reduceMod, Nat.reduceAdd, Nat.reducePow, Nat.reduceEqDiff,
    Nat.zero_add, Nat.one_mul, Nat.div_one, Nat.mod_mod, and_self, and_false, false_and])

/-- `R.ok [(n₁, v₁), …] = R.ok [(n₁, w₁), …]` becomes one goal per field, the enum tests evaluated (the caller has
    replaced each `enumOk …` by `true` or `false` on both sides). A float field is an `if`-nest over `FV.num` and `FV.nan`
    on both sides (not-available tests, aux mode). The code's test `v ≠ na` is turned the layout's way round, the layout
    side is taken to `Int` with the casts pushed down to the bytes, units and a constant zero byte of a wider read
    (`16777216 * 0`) are dropped, `sx` and `wrapS` unfolded: where the code reads just the bytes of the slice, or the
    caller has rewritten its idiom, the two sides are then the same term. Otherwise, by `ite_eq_iff_imp`, the equation
    is a statement about the conditions and the raw values — linear arithmetic with `/` and `%` by literals over the
    bytes of the field — and is left as a goal for `omega`. -/
macro "field_goals" : tactic => `(tactic|
  (simp only [Bool.not_true, Bool.not_false, Bool.true_or, Bool.false_or, Bool.or_self, reduceCtorEq, ↓reduceIte,
     true_and, and_true, false_and, and_false, true_or, or_true, false_or, or_false, not_true_eq_false,
     not_false_eq_true, implies_true, imp_false, imp_self, and_self, ne_eq, Decidable.not_not,
     R.ok.injEq, List.cons.injEq, Prod.mk.injEq, FVal.f.injEq, FVal.i.injEq, FV.num.injEq,
     ite_not, ite_eq_iff_imp, eq_ite_iff_imp,
     List.contains_cons, List.contains_nil, Bool.or_false, Bool.or_eq_true, beq_iff_eq,
     wrapS, sx, Nat.reduceSub, Int.reducePow,
     ← Int.natCast_inj, Int.natCast_add, Int.natCast_mul, Int.natCast_emod, Int.natCast_ediv, Int.cast_ofNat_Int,
     Int.mul_zero, Int.add_zero, Int.ediv_one] <;>
   and_intros))

end Victron.Ble
