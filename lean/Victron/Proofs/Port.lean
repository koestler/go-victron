import Victron.Model.Proto
/- The scripted port: the quantities the proofs follow, and what `read`, `flush` and `write` do to them. -/
namespace Victron

/-- What a sub-operation that never writes preserves of the port `p` it starts from: the write side (`written`, `nW`) and
    the script. Read `p.WEq q` as "`q` is `p` after such an operation". -/
def Port.WEq (p q : Port) : Prop :=
  q.written = p.written ∧ q.nW = p.nW ∧ q.replies = p.replies ∧ q.wFail = p.wFail ∧ q.rFail = p.rFail ∧ q.fFail = p.fFail

theorem Port.WEq.refl (p : Port) : p.WEq p := ⟨rfl, rfl, rfl, rfl, rfl, rfl⟩
theorem Port.WEq.trans {p q r : Port} (h1 : p.WEq q) (h2 : q.WEq r) : p.WEq r := by
  obtain ⟨a1, a2, a3, a4, a5, a6⟩ := h1
  obtain ⟨b1, b2, b3, b4, b5, b6⟩ := h2
  exact ⟨b1.trans a1, b2.trans a2, b3.trans a3, b4.trans a4, b5.trans a5, b6.trans a6⟩

theorem Port.WEq.written {p q : Port} (h : p.WEq q) : q.written = p.written := h.1
theorem Port.WEq.nW {p q : Port} (h : p.WEq q) : q.nW = p.nW := h.2.1
theorem Port.WEq.replies {p q : Port} (h : p.WEq q) : q.replies = p.replies := h.2.2.1
theorem Port.WEq.rFail {p q : Port} (h : p.WEq q) : q.rFail = p.rFail := h.2.2.2.2.1

/-- the chunks of a reply that reach the queue: `Port.write` drops the empty ones -/
def chunkCount (r : List Bytes) : Nat := (r.filter (fun c => !c.isEmpty)).length

/-- chunks waiting in the port + chunks the device will still send in reply to the Write calls to come -/
def Port.credit (p : Port) : Nat := p.queue.length + ((p.replies.map chunkCount).drop p.nW).sum

/-- potential: reads done + credit. A Read that delivers a chunk moves one unit from `credit` to `nR`; only a Read that
    delivers nothing makes it grow. -/
def Port.pot (p : Port) : Nat := p.nR + p.credit

/-- the bytes the device supplies in answer to the Write with index `k` -/
def Port.reply (p : Port) (k : Nat) : Bytes := (p.replies.getD k []).flatten

/-- the bytes the port will still deliver: the replies scripted for the writes to come -/
def Port.future (p : Port) : Bytes := ((p.replies.drop p.nW).map List.flatten).flatten

theorem Port.WEq.future {p q : Port} (h : p.WEq q) : q.future = p.future := by
  unfold Port.future; rw [h.nW, h.replies]

/-- a port on which no operation fails -/
def Port.Clean (p : Port) : Prop := p.wFail = [] ∧ p.rFail = [] ∧ p.fFail = []

/-- the script and the fault plan, which nothing ever changes, a Write included (`WEq` without the write side) -/
structure Port.SameScript (p q : Port) : Prop where
  replies : q.replies = p.replies
  wFail : q.wFail = p.wFail
  rFail : q.rFail = p.rFail
  fFail : q.fFail = p.fFail

theorem Port.SameScript.refl (p : Port) : p.SameScript p := ⟨rfl, rfl, rfl, rfl⟩

theorem Port.SameScript.trans {p q r : Port} (h1 : p.SameScript q) (h2 : q.SameScript r) : p.SameScript r :=
  ⟨h2.replies.trans h1.replies, h2.wFail.trans h1.wFail, h2.rFail.trans h1.rFail, h2.fFail.trans h1.fFail⟩

theorem Port.WEq.script {p q : Port} (h : p.WEq q) : p.SameScript q := ⟨h.replies, h.2.2.2.1, h.rFail, h.2.2.2.2.2⟩

theorem Port.SameScript.reply {p q : Port} (h : p.SameScript q) : q.reply = p.reply := by
  unfold Port.reply; rw [h.replies]

theorem Port.Clean.rFail {p : Port} (h : p.Clean) : p.rFail = [] := h.2.1

theorem Port.SameScript.clean {p q : Port} (h : p.SameScript q) (hc : p.Clean) : q.Clean :=
  ⟨h.wFail.trans hc.1, h.rFail.trans hc.rFail, h.fFail.trans hc.2.2⟩

theorem Port.read_cases (p : Port) :
    p.read = ({ p with nR := p.nR + 1, nE := p.nE + 1 }, none) ∨
    ∃ c cs, p.queue = c :: cs ∧ p.read = ({ p with nR := p.nR + 1, queue := cs }, some c) := by
  unfold Port.read
  split
  · exact Or.inl rfl
  · split
    · exact Or.inl rfl
    · rename_i c cs hq; exact Or.inr ⟨c, cs, hq, rfl⟩

theorem Port.read_none {p q : Port} (h : p.read = (q, none)) : q = { p with nR := p.nR + 1, nE := p.nE + 1 } := by
  rcases p.read_cases with h' | ⟨c, cs, _, h'⟩ <;> rw [h'] at h <;> cases h
  rfl

theorem Port.read_some {p q : Port} {c : Bytes} (h : p.read = (q, some c)) :
    ∃ cs, p.queue = c :: cs ∧ q = { p with nR := p.nR + 1, queue := cs } := by
  rcases p.read_cases with h' | ⟨c', cs, hq, h'⟩ <;> rw [h'] at h <;> cases h
  exact ⟨cs, hq, rfl⟩

theorem Port.read_clean {p : Port} (h : p.rFail = []) :
    p.read = match p.queue with
      | [] => ({ p with nR := p.nR + 1, nE := p.nE + 1 }, none)
      | c :: cs => ({ p with nR := p.nR + 1, queue := cs }, some c) := by
  unfold Port.read; rw [if_neg (by simp [h])]; rfl

theorem Port.flush_cases (p : Port) :
    p.flush = { p with nF := p.nF + 1 } ∨ p.flush = { p with nF := p.nF + 1, queue := [] } := by
  unfold Port.flush; split
  · exact Or.inl rfl
  · exact Or.inr rfl

theorem Port.flush_weq (p : Port) : p.WEq p.flush := by
  rcases p.flush_cases with h | h <;> rw [h] <;> exact ⟨rfl, rfl, rfl, rfl, rfl, rfl⟩

theorem Port.flush_rFail (p : Port) : p.flush.rFail = p.rFail := p.flush_weq.rFail

theorem Port.write_cases (p : Port) (b : Bytes) :
    p.write b = ({ p with nW := p.nW + 1 }, false) ∨
    p.write b = ({ p with nW := p.nW + 1, written := b :: p.written,
                          queue := p.queue ++ (p.replies.getD p.nW []).filter (fun c => !c.isEmpty) }, true) := by
  unfold Port.write; split
  · exact Or.inl rfl
  · exact Or.inr rfl

theorem Port.future_eq (p : Port) : p.future = p.reply p.nW ++ ({ p with nW := p.nW + 1 } : Port).future := by
  unfold Port.future Port.reply
  rw [List.drop_eq_getElem?_toList_append, List.getD_eq_getElem?_getD]
  cases p.replies[p.nW]? <;> simp

theorem Port.credit_eq (p : Port) :
    p.credit = p.queue.length + chunkCount (p.replies.getD p.nW []) + ((p.replies.map chunkCount).drop (p.nW + 1)).sum := by
  unfold Port.credit
  rw [List.drop_eq_getElem?_toList_append, List.getElem?_map, List.getD_eq_getElem?_getD]
  cases p.replies[p.nW]? <;> simp [chunkCount, Nat.add_assoc]

end Victron
