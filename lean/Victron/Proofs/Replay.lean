import Victron.Proofs.Loop
/-
  The I/O log replays (C18): what a successful exchange appends to the rx capture is exactly the prefix of the pending
  stream it consumed; that prefix has the shape the scanner resynchronises over (`receiveResponseF_some`), so a fresh
  driver on a port that answers the logged transmission with the logged reception finds the same response body.
-/
namespace Victron

/-- a freshly constructed driver on a port that answers the first transmission with `rx` -/
def Vd.replayOf (rx : Bytes) (ioLog dbg : Bool) : Vd := { port := { replies := [[rx]] }, ioLog := ioLog, dbg := dbg }

/-- what matters of a replay driver before its first transmission (nothing about flush faults: with queue and buffer
    empty a flush, failing or not, changes nothing that is pending) -/
def Vd.ReplayReady (σ : Vd) (rx : Bytes) : Prop :=
  σ.port.queue = [] ∧ σ.buf = [] ∧ σ.port.nW = 0 ∧ σ.port.replies = [[rx]] ∧ σ.port.wFail = [] ∧ σ.port.rFail = []

theorem Vd.replayOf_ready (rx : Bytes) (io dbg : Bool) : (Vd.replayOf rx io dbg).ReplayReady rx :=
  ⟨rfl, rfl, rfl, rfl, rfl, rfl⟩

theorem Vd.ReplayReady.afterSend {σ : Vd} {rx : Bytes} (h : σ.ReplayReady rx) (idle : Bool) (cmd : Nat) (data : Bytes) :
    σ.sendOk idle cmd data = true ∧ (σ.afterSend idle cmd data).pending = rx := by
  obtain ⟨h1, h2, h3, h4, h5, _⟩ := h
  unfold Vd.sendOk Vd.afterSend Vd.write Port.write
  cases idle <;> simp [h1, h2, h3, h4, h5, Vd.pending, Vd.flushReceiver, Port.flush, List.flatten_filter_not_isEmpty]

/-- **Replay of one exchange.** If `sendReceive`, with the I/O logger on and an empty rx capture, obtained the
    response `body`, then a driver whose port answers the next transmission with the captured bytes
    obtains `body` as well — whatever its own logger configuration and idle state. -/
theorem Vd.sendReceive_replay (σ : Vd) (idle : Bool) (cmd : Nat) (data body : Bytes)
    (hio : σ.ioLog = true) (hrx : σ.rxBuf = [])
    (h : (σ.sendReceive idle cmd data).2 = some body) (σr : Vd)
    (hready : σr.ReplayReady (σ.sendReceive idle cmd data).1.rxBuf) (idle' : Bool) :
    (σr.sendReceive idle' cmd data).2 = some body := by
  obtain ⟨_, hrr⟩ := Vd.sendReceive_some (Prod.ext rfl h)
  obtain ⟨segs, noise, hs, hn, hb, ha, _, t⟩ := Vd.receiveResponseF_some hrr
  -- the capture was empty when the command had gone out, so afterwards it is exactly what was taken
  have hx := t.rxBuf
  have htx := (σ.afterSend_run idle cmd data).tx
  have hrx0 : (σ.afterSend idle cmd data).rxBuf = [] := by
    unfold Vd.afterSend; rw [Vd.write_eq]; cases idle <;> simpa [Vd.flushReceiver] using hrx
  rw [htx.ioLog, hio, if_pos rfl, hrx0, List.nil_append] at hx
  obtain ⟨hok, hp⟩ := hready.afterSend idle' cmd data
  have := (σr.sendReceive_scan idle' cmd data hok hready.2.2.2.2.2).1
  rwa [hp, hx, scanAll_skip segs noise body [] hs hn hb ha] at this

theorem Vd.sendReceive_tx_some (σ : Vd) (idle : Bool) (cmd : Nat) (data body : Bytes)
    (h : (σ.sendReceive idle cmd data).2 = some body) :
    σ.TxInv (σ.sendReceive idle cmd data).1 [txFrame cmd data] := by
  have hr := (σ.sendReceive_run idle cmd data).tx
  rwa [(Vd.sendReceive_some (Prod.ext rfl h)).1] at hr

/-- A call that made a single Write was decided by its first attempt. (`is ≠ []`: with a single attempt allowed, one
    Write could also mean that the attempts were used up.) -/
theorem Vd.single_exchange (i : Bool) (is : List Bool) (his : is ≠ []) (σ : Vd) (addr : Nat)
    (h : (Vd.veCommandGetL (i :: is) σ addr).1.port.nW = σ.port.nW + 1) :
    ∃ r, (σ.attempt i addr).2 = .done r ∧ Vd.veCommandGetL (i :: is) σ addr = ((σ.attempt i addr).1, r) := by
  rw [Vd.veCommandGetL_cons] at h ⊢
  obtain ⟨_, _, r1⟩ := σ.attempt_run i addr
  generalize σ.attempt i addr = a at h r1 ⊢
  obtain ⟨σ1, _ | r⟩ := a
  · -- a retried first attempt is followed by at least one more Write call
    obtain ⟨n, _, _, hn, _, r2⟩ := Vd.veCommandGetL_run is σ1 addr
    have := hn his
    rw [r2.nW, r1.nW] at h; omega
  · exact ⟨r, rfl, rfl⟩

/-- **Replay of a register access.** If `VeCommandGet`, with the I/O logger on and an empty rx capture, was
    decided in a single exchange, then on any driver whose port answers the next transmission with the captured
    bytes the access returns the same result. -/
theorem Vd.veCommandGetL_replay (i : Bool) (is : List Bool) (his : is ≠ []) (σ : Vd) (addr : Nat)
    (hio : σ.ioLog = true) (hrx : σ.rxBuf = [])
    (h : (Vd.veCommandGetL (i :: is) σ addr).1.port.nW = σ.port.nW + 1)
    (σr : Vd) (hready : σr.ReplayReady (Vd.veCommandGetL (i :: is) σ addr).1.rxBuf) (i' : Bool) (is' : List Bool) :
    (Vd.veCommandGetL (i' :: is') σr addr).2 = (Vd.veCommandGetL (i :: is) σ addr).2 ∧
    σ.TxInv (Vd.veCommandGetL (i :: is) σ addr).1 [tx 7 addr] := by
  obtain ⟨r, hdone, heq⟩ := Vd.single_exchange i is his σ addr h
  rw [heq] at hready ⊢
  rw [Vd.attempt_eq] at hdone hready ⊢
  -- the deciding attempt got a response: the verdict on silence is `retry`
  obtain ⟨body, hsome⟩ := verdict_done hdone
  have hr := Vd.sendReceive_replay σ i 7 (paramFor 7 addr) body hio hrx hsome σr hready i'
  refine ⟨?_, Vd.sendReceive_tx_some σ i 7 (paramFor 7 addr) body hsome⟩
  rw [Vd.veCommandGetL_cons, Vd.attempt_eq, hr, ← hsome, hdone]

end Victron
