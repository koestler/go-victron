import Victron.Gen.Tables
import Victron.Model.Tables
/-
  C15 — Field lists expose exactly the documented bits and render deterministically.
  `Gen.fieldLists`: the three index-to-name maps regenerated from /repo (T1). `EnumTable.fields` and
  `EnumTable.commaString` model `NewFieldList(raw).Fields()` and `FieldListValue.CommaString()`; they are
  tied to the real functions by the correspondence (16-bit type exhaustively; all combinations of the
  documented bits x settings of the other bits incl. bits >= 32; every value rendered repeatedly) (T3).
  In the model rendering is a function of (table, raw): determinism is functionality.
-/
namespace Victron.C15
open Victron

def docIdx (T : EnumTable) : List Int := T.entries.map (·.1)

/-- the decoded field set has exactly the documented indices as keys, in table order -/
theorem fields_keys (T : EnumTable) (raw : Nat) : (T.fields raw).map (·.1) = docIdx T := by
  simp [EnumTable.fields, docIdx, List.map_map, Function.comp_def]

/-- field i is marked set iff bit i of the raw value is set — for every raw value of any size -/
theorem fields_bit (T : EnumTable) (raw : Nat) (i : Int) (b : Bool) (h : (i, b) ∈ T.fields raw) :
    i ∈ docIdx T ∧ b = raw.testBit i.toNat := by
  obtain ⟨e, he, heq⟩ := List.mem_map.mp h
  cases heq
  exact ⟨List.mem_map_of_mem he, rfl⟩

/-- undocumented bits never matter: two raw values that agree on the documented bits decode identically -/
theorem undocumented_bits_irrelevant (T : EnumTable) (raw raw' : Nat)
    (h : ∀ i ∈ docIdx T, raw.testBit i.toNat = raw'.testBit i.toNat) : T.fields raw = T.fields raw' := by
  simp only [EnumTable.fields]
  apply List.map_congr_left
  intro e he
  rw [h e.1 (List.mem_map_of_mem he)]

/-- the documented indices are non-negative, below `width`, strictly ascending, and carry non-empty names -/
def tableOk (width : Nat) (T : EnumTable) : Bool :=
  T.entries.all (fun e => 0 ≤ e.1 && e.1 < width && e.2 != "") &&
  (T.entries.zip T.entries.tail).all (fun p => p.1.1 < p.2.1)

/-- today's tables: indices below 32 for the off reasons, below 16 for the warning reasons -/
theorem tables_ok : tableOk 32 Gen.fieldsInverterOffReasons = true ∧ tableOk 32 Gen.fieldsSolarOffReasons = true ∧
    tableOk 16 Gen.fieldsInverterWarningReasons = true := by decide +kernel

theorem three : Gen.fieldLists = [Gen.fieldsInverterOffReasons, Gen.fieldsSolarOffReasons, Gen.fieldsInverterWarningReasons] := rfl

/-- narrowing the raw value to the type's width (uint32 / uint16 in the code) loses nothing: bits at or
    above the width — bits >= 32 included — have no influence -/
theorem width_truncation (width : Nat) (T : EnumTable) (hT : tableOk width T = true) (raw : Nat) :
    T.fields (raw % 2 ^ width) = T.fields raw := by
  apply undocumented_bits_irrelevant
  intro i hi
  simp only [tableOk, Bool.and_eq_true] at hT
  obtain ⟨e, he, rfl⟩ := List.mem_map.mp hi
  have := List.all_eq_true.mp hT.1 e he
  simp only [Bool.and_eq_true, decide_eq_true_eq] at this
  have hlt : e.1.toNat < width := by omega
  rw [Nat.testBit_mod_two_pow]
  simp [hlt]

/-- the rendering names exactly the set fields, each once, in ascending index order, joined by ", " -/
theorem render_exact (T : EnumTable) (raw : Nat) :
    T.commaString raw = String.intercalate ", " (((T.fields raw).zip T.entries).filterMap (fun p => if p.1.2 then some p.2.2 else none)) := by
  simp only [EnumTable.commaString, EnumTable.fields]
  congr 1
  induction T.entries with
  | nil => rfl
  | cons e t ih =>
    simp only [List.map_cons, List.zip_cons_cons, List.filterMap_cons, List.filter_cons]
    cases raw.testBit e.1.toNat <;> simp [ih]

/-- the rendering is a function of the value alone: every production of it is identical -/
theorem render_deterministic (T : EnumTable) (raw : Nat) (r₁ r₂ : String)
    (h₁ : r₁ = T.commaString raw) (h₂ : r₂ = T.commaString raw) : r₁ = r₂ := by rw [h₁, h₂]

/-- non-vacuity: three set bits rendered in index order; a bit above the documented ones changes nothing -/
example : Gen.fieldsSolarOffReasons.commaString 0x205 = "No input power, Soft power switch, Battery temperature too low" := by decide +kernel
example : Gen.fieldsSolarOffReasons.fields (0x205 + 2 ^ 40) = Gen.fieldsSolarOffReasons.fields 0x205 := by decide +kernel

end Victron.C15
