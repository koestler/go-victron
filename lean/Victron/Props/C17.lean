/-
  C17 — Lookup data handed out by the library cannot be corrupted by callers.
  The property is about Go's reference semantics. Model: a small heap in which the library's tables are
  internal objects; a lookup allocates a fresh object holding a copy and hands out its id; callers can do
  anything to objects they hold. Theorem: internal objects are unreachable for callers, so every later lookup
  returns the original data. That the code allocates as the model says (and does not hand out or cache
  an internal map / slice) is what the correspondence checks: every lookup function x caller mutations x a
  second and third call, compared with the constant table content (T3). Level: proof on the heap model,
  partial with respect to the code.
-/
namespace Victron.C17
open Victron

/-- object contents are abstract (a list of naturals stands for a map or slice) -/
structure Heap where
  objs : List (List Nat)          -- object id = position
  internal : Nat                  -- ids below `internal` belong to the library, all others were handed out
  deriving Repr

inductive Op where
  | lookup (src : Nat)                          -- a lookup function backed by internal object `src`
  | mutate (id : Nat) (f : List Nat → List Nat)  -- the caller does anything to an object it holds

/-- a lookup copies; a mutation is applied only to caller-held objects (a caller has no other ids) -/
def step (h : Heap) : Op → Heap
  | .lookup src => { h with objs := h.objs ++ [h.objs.getD src []] }
  | .mutate id f => if h.internal ≤ id then { h with objs := h.objs.modify id f } else h

def run (ops : List Op) (h : Heap) : Heap := ops.foldl step h

/-- what a lookup returns in heap `h` -/
def result (h : Heap) (src : Nat) : List Nat := h.objs.getD src []

/-- the operation edits object `id` -/
def Op.edits (id : Nat) : Op → Prop
  | .mutate j _ => j = id
  | .lookup _ => False

/-- an object keeps its contents unless the step edits it and it is caller-held: the edit of an internal object is refused -/
theorem step_keeps (h : Heap) (op : Op) (id : Nat) (hid : id < h.objs.length) (hno : op.edits id → id < h.internal) :
    (step h op).objs.getD id [] = h.objs.getD id [] ∧ h.objs.length ≤ (step h op).objs.length ∧
      (step h op).internal = h.internal := by
  cases op with
  | lookup s => exact ⟨by simp [step, List.getD_eq_getElem?_getD, List.getElem?_append_left hid], by simp [step], rfl⟩
  | mutate j f =>
    by_cases hle : h.internal ≤ j
    · have hj : j ≠ id := fun e => by have := hno e; omega
      exact ⟨by simp [step, hle, List.getD_eq_getElem?_getD, hj], by simp [step, hle], by simp [step, hle]⟩
    · simp [step, hle]

theorem step_internal (h : Heap) (op : Op) (src : Nat) (hs : src < h.internal) (hi : h.internal ≤ h.objs.length) :
    result (step h op) src = result h src ∧ (step h op).internal = h.internal ∧ (step h op).internal ≤ (step h op).objs.length := by
  obtain ⟨h1, h2, h3⟩ := step_keeps h op src (by omega) (fun _ => hs)
  exact ⟨h1, h3, by omega⟩

theorem run_keeps (ops : List Op) (h : Heap) (id : Nat) (hid : id < h.objs.length)
    (hno : ∀ op ∈ ops, op.edits id → id < h.internal) :
    (run ops h).objs.getD id [] = h.objs.getD id [] := by
  induction ops generalizing h with
  | nil => rfl
  | cons op ops ih =>
    obtain ⟨h1, h2, h3⟩ := step_keeps h op id hid (hno op (by simp))
    rw [← h1]
    exact ih (step h op) (by omega) (fun o ho => h3 ▸ hno o (by simp [ho]))

/-- **Private copies.** After any history of lookups and caller mutations every lookup function still returns
    the original data. -/
theorem lookup_stable (ops : List Op) (h : Heap) (src : Nat) (hs : src < h.internal) (hi : h.internal ≤ h.objs.length) :
    result (run ops h) src = result h src :=
  run_keeps ops h src (by omega) (fun _ _ _ => hs)

/-- what a lookup hands out is a copy of the original -/
theorem lookup_returns_original (ops : List Op) (h : Heap) (src : Nat) (hs : src < h.internal) (hi : h.internal ≤ h.objs.length) :
    (step (run ops h) (.lookup src)).objs.getLast? = some (result h src) := by
  have := lookup_stable ops h src hs hi
  simp only [result, List.getD_eq_getElem?_getD] at this
  simp [step, this, result]

/-- **Private from each other.** A result the caller holds and does not edit itself keeps its contents whatever else
    happens: later lookups (of the same or of other tables) and edits of *other* results — e.g. of a second result of the
    same lookup taken right after it — never reach it. -/
theorem held_result_stable (ops : List Op) (h : Heap) (id : Nat) (hid : id < h.objs.length)
    (hno : ∀ op ∈ ops, ¬ op.edits id) :
    (run ops h).objs.getD id [] = h.objs.getD id [] :=
  run_keeps ops h id hid (fun op ho e => absurd e (hno op ho))

/-- two results of the same lookup, the first one edited: the second one still holds the original -/
example : (run [.lookup 0, .lookup 0, .mutate 1 (fun _ => [])] ⟨[[1, 2, 3]], 1⟩).objs.getD 2 [] = [1, 2, 3] := by decide

/-- non-vacuity: the caller empties and overwrites what it got; the next lookup is unaffected -/
example : result (run [.lookup 0, .mutate 1 (fun _ => []), .lookup 0, .mutate 2 (fun l => 9 :: l), .mutate 0 (fun _ => [])]
    ⟨[[1, 2, 3]], 1⟩) 0 = [1, 2, 3] := by decide

end Victron.C17
