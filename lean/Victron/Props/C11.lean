import Victron.Gen.Tables
import Victron.Model.Api
import Victron.Proofs.Calls
import Victron.Props.C12
/-
  C11 — Connecting identifies the product correctly for every device id.
  Model: `connect` (NewRegisterApi) over an abstract transport + the regenerated tables; `connectVd`, the same
  two calls on the driver model, for the order of the frames. Compared with the real NewRegisterApi for all
  65536 device ids on a healthy simulated device and for the failure shapes (T3, exhaustive over ids).
-/
namespace Victron.C11
open Victron ListSpec

def conn (tr : Transport) : R (Nat × RegList) := connect tr Gen.products Gen.types C12.fam

/-- `NewRegisterApi` with the lookups evaluated: by C12 the register list is the one of the product's class -/
theorem conn_eq (tr : Transport) :
    conn tr = tr.ping.bind fun _ => tr.devid.bind fun id =>
      match classOf (C12.row id) with
      | some c => .ok (id, listOf C12.full c)
      | none => .err (if (C12.row id).exists_ then .unsupportedType else .other) := by
  unfold conn connect
  cases tr.ping with
  | ok u =>
    cases tr.devid with
    | ok id =>
      -- `connect` asks first whether the product exists; one that does not has no class
      show (if !(C12.row id).exists_ then _ else match C12.sel id with | (_, some e) => _ | (rl, none) => _) =
        match classOf (C12.row id) with | some c => _ | none => _
      rw [C12.list_by_class, specOf]
      cases he : (C12.row id).exists_
      · simp [classOf, he]
      · cases classOf (C12.row id) <;> rfl
    | _ => rfl
  | _ => rfl

/-- **An object is returned iff** the device answers the ping and the id query and the id denotes a known
    product of a supported class — for every id the device may report. -/
theorem connect_iff (tr : Transport) :
    (conn tr).isOk = true ↔ tr.ping = .ok () ∧ ∃ id, tr.devid = .ok id ∧ classOf (C12.row id) ≠ none := by
  rw [conn_eq]
  cases tr.ping <;> cases tr.devid <;> simp only [R.bind, R.isOk] <;> try (simp; done)
  rename_i id
  cases hc : classOf (C12.row id) <;> simp [hc]

/-- in which case the object's product equals the id and its register list is the list defined for that product -/
theorem connect_product (tr : Transport) (id : Nat) (rl : RegList) (h : conn tr = .ok (id, rl)) :
    tr.devid = .ok id ∧ rl = (C12.sel id).1 ∧ (C12.sel id).2 = none := by
  rw [conn_eq] at h
  obtain ⟨_, _, h⟩ := R.bind_eq_ok h
  obtain ⟨id', hd, h⟩ := R.bind_eq_ok h
  cases hc : classOf (C12.row id') <;> rw [hc] at h <;> simp only [R.ok.injEq, Prod.mk.injEq, reduceCtorEq] at h
  obtain ⟨rfl, rfl⟩ := h
  simp [hd, C12.supported_ok _ _ hc]

/-- in every other case an error and no object are returned (the result type carries no object on `err`) -/
theorem connect_err_no_object (tr : Transport) (h : (conn tr).isOk = false) : ∃ e, conn tr = .err e ∨ conn tr = .panic := by
  cases hc : conn tr with
  | ok v => rw [hc] at h; simp [R.isOk] at h
  | err e => exact ⟨e, Or.inl rfl⟩
  | panic => exact ⟨.other, Or.inr rfl⟩

/-- never a panic from the connect logic itself -/
theorem connect_no_panic (tr : Transport) (hp : tr.ping ≠ .panic) (hd : tr.devid ≠ .panic) : conn tr ≠ .panic := by
  rw [conn_eq]
  exact R.bind_ne_panic hp fun _ _ => R.bind_ne_panic hd fun id _ => by split <;> simp

/-- the two calls on the driver model -/
def connectVd (σ : Vd) (i1 i2 : Bool) : Vd × R Nat :=
  match σ.ping i1 with
  | (σ1, .ok ()) => σ1.getDeviceId i2
  | (σ1, .err e) => (σ1, .err e)
  | (σ1, .panic) => (σ1, .panic)

/-- **Order.** Connecting pings first and then asks the device id: the frames written are `:154\n` and then —
    only if the ping was answered — `:451\n`; nothing else is written. -/
theorem connect_order (σ : Vd) (i1 i2 : Bool) :
    ∃ a b, a ≤ 1 ∧ b ≤ 1 ∧
      (connectVd σ i1 i2).1.port.written = List.replicate b (tx 4 0) ++ List.replicate a (tx 1 0) ++ σ.port.written ∧
      ((σ.ping i1).2 ≠ .ok () → b = 0) := by
  have r1 : (σ.ping i1).1.port.written = List.replicate (σ.sendOk i1 1 []).toNat (tx 1 0) ++ σ.port.written := by
    rw [Vd.ping_eq, Vd.lineEnd_port]; exact (σ.sendReceive_run i1 1 []).written
  unfold connectVd
  generalize σ.ping i1 = p at r1
  obtain ⟨σ1, _ | _ | _⟩ := p
  · have r2 : (σ1.getDeviceId i2).1.port.written = List.replicate (σ1.sendOk i2 4 []).toNat (tx 4 0) ++ σ1.port.written := by
      rw [Vd.getDeviceId_eq, Vd.lineEnd_port]; exact (σ1.sendReceive_run i2 4 []).written
    exact ⟨_, _, Bool.toNat_le _, Bool.toNat_le _, by rw [r2, r1, List.append_assoc], by simp⟩
  · exact ⟨_, 0, Bool.toNat_le _, by omega, by simpa using r1, by simp⟩
  · exact ⟨_, 0, Bool.toNat_le _, by omega, by simpa using r1, by simp⟩

/-- **A device that answers both is connected** (driver level, fault-free port): whatever amount of text-protocol
    noise and asynchronous frames the device sends in front of its answers — a burst of any length, also left over from
    before the connect when the ping is not the first command after an idle period — the ping is answered by any
    complete non-async frame and the id query by the Done frame carrying `id`; the two exchanges yield `id` with exactly
    two frames written (`:154\n` then `:451\n`, `connect_order`). Whether `id` then gives an object is `connect_iff`. -/
theorem connect_answers_both (σ : Vd) (i1 i2 : Bool) (id : Nat) (hid : id < 65536)
    (segs1 segs2 : List (Bytes × Bytes)) (noise1 noise2 body rest1 rest2 : Bytes) (hc : σ.port.Clean)
    (hs1 : ∀ s ∈ segs1, 58 ∉ s.1 ∧ 10 ∉ s.2) (hn1 : 58 ∉ noise1) (hb : 10 ∉ body) (hA : ¬ (body.headD 0 = 65 ∧ body ≠ []))
    (hs2 : ∀ s ∈ segs2, 58 ∉ s.1 ∧ 10 ∉ s.2) (hn2 : 58 ∉ noise2)
    (hping : (if i1 then [] else σ.pending) ++ σ.port.reply σ.port.nW =
      (segs1.map asyncSeg).flatten ++ noise1 ++ 58 :: body ++ 10 :: rest1)
    (hdev : (if i2 then [] else rest1) ++ σ.port.reply (σ.port.nW + 1) =
      (segs2.map asyncSeg).flatten ++ noise2 ++ frameOf (respBody 1 [id % 256, id / 256 % 256]) ++ rest2) :
    ∃ σ', connectVd σ i1 i2 = (σ', .ok id) ∧ σ'.pending = rest2 ∧ σ'.port.nW = σ.port.nW + 2 := by
  have hv : IsBytes [id % 256, id / 256 % 256] := encodeLE_isBytes 2 id
  obtain ⟨hnl, hA2⟩ := respBody_shape (n := 1) (by omega) hv
  -- the ping
  obtain ⟨g1, q1, c1, e1, n1⟩ := σ.sendReceive_clean i1 1 [] hc
  rw [hping, scanAll_skip segs1 noise1 body rest1 hs1 hn1 hb hA] at g1 q1
  -- the device-id query starts from the state the ping left, logged line closed
  generalize hσ1 : (σ.sendReceive i1 1 []).1.lineEnd = σ1
  have hport : σ1.port = (σ.sendReceive i1 1 []).1.port := by rw [← hσ1, Vd.lineEnd_port]
  obtain ⟨g2, q2, _, _, n2⟩ := σ1.sendReceive_clean i2 4 [] (hport ▸ c1)
  rw [hport, e1, n1, ← hσ1, Vd.lineEnd_pending, q1, hdev, append_frameOf,
    scanAll_skip segs2 noise2 _ rest2 hs2 hn2 hnl hA2, hσ1] at g2 q2
  refine ⟨(σ1.sendReceive i2 4 []).1.lineEnd, ?_, by rw [Vd.lineEnd_pending, q2],
    by rw [Vd.lineEnd_port, n2, hport, n1]⟩
  unfold connectVd
  rw [Vd.ping_eq, g1, hσ1]
  simp only
  rw [Vd.getDeviceId_eq, g2]
  have hparse : parseResponse 4 (respBody 1 [id % 256, id / 256 % 256]) = _ := parseResponse_respBody 4 hv (by simp)
  have hle : leNat [id % 256, id / 256 % 256] = id := (leNat_encodeLE 2 id).trans (Nat.mod_eq_of_lt hid)
  simp [hparse, R.bind, hle]

/-- non-vacuity: a pong behind a burst of 40 asynchronous frames, the id behind text output -/
example : (connectVd { port := { replies := [[(List.replicate 40 (asyncSeg ([], hexBytes [1, 2]))).flatten ++ frameOf (respBody 5 [0x16, 0x41])],
      ["\r\nV\t12800".toList.map Char.toNat ++ frameOf (respBody 1 [0x56, 0xA0])]] } } true false).2 = .ok 0xA056 := by decide +kernel

example : tx 1 0 = ":154\n".toList.map Char.toNat ∧ tx 4 0 = ":451\n".toList.map Char.toNat := by decide

/-- non-vacuity: a SmartSolar 100|30 is connected; an IP43 charger, an unknown id and a silent device are not -/
example : (conn ⟨.ok (), .ok 0xA056, fun _ => .err .other⟩).isOk = true := by decide +kernel
example : conn ⟨.ok (), .ok 0xA340, fun _ => .err .other⟩ = .err .unsupportedType := by decide +kernel
example : conn ⟨.ok (), .ok 0x1234, fun _ => .err .other⟩ = .err .other := by decide +kernel
example : conn ⟨.err .other, .ok 0xA056, fun _ => .err .other⟩ = .err .other := by decide +kernel

end Victron.C11
