import Victron.Proofs.Calls
import Victron.Proofs.Stream
import Victron.Props.C09
/-
  C05 — Device-reported errors are surfaced, typed and not retried.
  Model: `flagError` (error.go), `getStep`, `Vd.veCommandGetL`, the typed accessors. The register API's wrapping
  (`%w` + register name) is in the Api model (Props/C09.lean `transport_error_wrapped`).
-/
namespace Victron.C05
open Victron

/-- flags 0x01, 0x02, 0x04 map to the three typed errors -/
theorem flag_kinds : flagError 1 = some .unknownId ∧ flagError 2 = some .notSupported ∧ flagError 4 = some .parameterError := by
  decide

/-- a valid response for the requested register with such a flag is a device error — with or without
    trailing payload bytes, whatever they are -/
theorem error_frame_step (addr : Nat) (haddr : addr < 65536) (flag : Nat) (hf : flag = 1 ∨ flag = 2 ∨ flag = 4)
    (payload spare : Bytes) :
    ∃ e, flagError flag = some e ∧ getStep addr ⟨[addr % 256, addr / 256 % 256, flag] ++ payload, spare⟩ = .fail e := by
  obtain ⟨hlt, e, he, _⟩ := flagError_typed hf
  exact ⟨e, he, by rw [getStep_response addr addr haddr flag hlt, if_neg (by simp), he]⟩

/-- **Not retried.** When attempt `k` (after `k-1` retries) meets a valid matching frame carrying flag
    0x01 / 0x02 / 0x04 — behind any skippable material — `VeCommandGet` returns the typed error at once,
    having made exactly `k` Write calls (exactly one when the device answers the first attempt). -/
theorem device_error_not_retried (pre post : List Bool) (i : Bool) (σ σk : Vd) (addr : Nat) (haddr : addr < 65536)
    (flag : Nat) (hf : flag = 1 ∨ flag = 2 ∨ flag = 4) (payload : Bytes) (hpl : IsBytes payload)
    (segs : List (Bytes × Bytes)) (noise rest : Bytes)
    (hpre : Vd.afterRetries pre σ addr = some σk)
    (hok : σk.sendOk i 7 (paramFor 7 addr) = true) (hrf : σk.port.rFail = [])
    (hsegs : ∀ s ∈ segs, 58 ∉ s.1 ∧ 10 ∉ s.2) (hnoise : 58 ∉ noise)
    (hpend : (σk.afterSend i 7 (paramFor 7 addr)).pending =
      (segs.map asyncSeg).flatten ++ noise ++ frameOf (getResponseBody addr flag payload) ++ rest) :
    ∃ σ' e, flagError flag = some e ∧ Vd.veCommandGetL (pre ++ i :: post) σ addr = (σ', .err e) ∧
      σ'.port.nW = σ.port.nW + pre.length + 1 := by
  obtain ⟨hlt, e, he, _⟩ := flagError_typed hf
  obtain ⟨σ', h, hn, _⟩ := Vd.veCommandGetL_frame pre i post haddr hlt hpl rest hpre hok hrf hsegs hnoise hpend
  rw [he] at h
  exact ⟨σ', e, he, h, hn⟩

/-- every accessor passes the device error on unchanged and returns no value (`R.err` carries none) -/
theorem accessors_surface_error (σ : Vd) (idles : List Bool) (addr : Nat) (e : Err)
    (h : (σ.veCommandGet idles addr).2 = .err e) :
    (σ.getUint idles addr).2 = .err e ∧ (σ.getInt idles addr).2 = .err e ∧ (σ.getString idles addr).2 = .err e := by
  rw [Vd.getUint_eq, Vd.getInt_eq, Vd.getString_eq, h]
  exact ⟨rfl, rfl, rfl⟩

/-- **Against a whole device stream** (fault-free port): behind at most seven
    wasted units — rejected frames and silences, `Proofs/Stream.lean` — a valid response for `addr` with flag
    1, 2 or 4 ends the call with the typed error, one frame written per wasted unit plus one: the error
    response itself is never retried, whatever follows it. -/
theorem stream_device_error (ws : List (Bool × Waste)) (i : Bool) (post idles : List Bool) (σ : Vd) (addr : Nat) (haddr : addr < 65536)
    (flag : Nat) (hf : flag = 1 ∨ flag = 2 ∨ flag = 4) (payload : Bytes) (hpl : IsBytes payload)
    (hid : idles8 idles = ws.map (·.1) ++ i :: post) (hws : ∀ w ∈ ws, w.2.Ok addr)
    (segs : List (Bytes × Bytes)) (noise rest : Bytes)
    (hsegs : ∀ s ∈ segs, 58 ∉ s.1 ∧ 10 ∉ s.2) (hnoise : 58 ∉ noise) (hc : σ.port.Clean)
    (hfeed : Feeds σ.port.reply σ.port.nW σ.pending ws i
      ((segs.map asyncSeg).flatten ++ noise ++ frameOf (getResponseBody addr flag payload) ++ rest)) :
    ∃ σ' e, flagError flag = some e ∧ e ≠ .other ∧ σ.veCommandGet idles addr = (σ', .err e) ∧
      σ'.port.nW = σ.port.nW + ws.length + 1 ∧ σ'.pending = rest := by
  obtain ⟨hlt, e, he, hne⟩ := flagError_typed hf
  obtain ⟨σ', h, hn, hp⟩ := Vd.veCommandGetL_stream ws i post haddr hlt hpl hws rest hsegs hnoise hc hfeed
  rw [he] at h
  exact ⟨σ', e, he, hne, by unfold Vd.veCommandGet; rw [hid, h], hn, hp⟩

/-- **API wrapping.** Every register reader of the API returns a device error of the same kind (still
    matchable) together with the register's name. -/
theorem api_wraps (tr : Transport) (r : Reg) (e : Err) (hg : tr.get r.address = .err e) :
    readNumber tr r = .err e r.name ∧ readText tr r = .err e r.name ∧
    readEnum tr Gen.enums r = .err e r.name ∧ readFieldList tr Gen.fieldLists r = .err e r.name :=
  C09.transport_error_wrapped tr r e hg

/-- non-vacuity: flag 0x02 with two trailing payload bytes at the first attempt: one frame written -/
example : (Vd.veCommandGet { port := { replies := [[frameOf (getResponseBody 0xEDF0 2 [1, 2])], [frameOf (getResponseBody 0xEDF0 0 [1, 2])]] } } [true] 0xEDF0).2 = .err .notSupported := by decide
example : (Vd.veCommandGet { port := { replies := [[frameOf (getResponseBody 0xEDF0 2 [1, 2])], [frameOf (getResponseBody 0xEDF0 0 [1, 2])]] } } [true] 0xEDF0).1.port.nW = 1 := by decide

end Victron.C05
