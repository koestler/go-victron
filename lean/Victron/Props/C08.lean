import Victron.Props.C07
/-
  C08 — BLE record decoders are total and length-safe.
  Corollaries of the thirteen `Conforms` theorems of C07, which are stated for EVERY input length and EVERY
  spare capacity (the bytes between len and cap): a read beyond the slice's length, a panic, a wrong
  length guard or a dependence on trailing bytes would each make the decoder's `Conforms` theorem false.
-/
namespace Victron.C08
open Victron Victron.Ble Victron.BleSpec Victron.C07

variable {f : Bytes → Bytes → R Rec} {L : Layout}

/-- ErrInputTooShort exactly when the input is shorter than the record's documented byte length -/
theorem too_short_iff (hc : Conforms f L) (inp spare : Bytes) (hb : IsBytes inp) :
    f inp spare = .err .tooShort ↔ inp.length < L.n := by
  rw [hc inp spare hb]; exact decode_tooShort_iff L inp

/-- never panics — any length, any capacity, any content -/
theorem never_panics (hc : Conforms f L) (inp spare : Bytes) (hb : IsBytes inp) : f inp spare ≠ .panic := by
  rw [hc inp spare hb]; exact decode_ne_panic L inp

/-- never reads beyond the slice's length: the bytes between len and cap have no influence, whatever the
    capacity -/
theorem spare_independent (hc : Conforms f L) (inp s₁ s₂ : Bytes) (hb : IsBytes inp) : f inp s₁ = f inp s₂ := by
  rw [hc inp s₁ hb, hc inp s₂ hb]

/-- for longer inputs the result is independent of the bytes after the record -/
theorem suffix_independent (hc : Conforms f L) (hw : within L = true) (inp suf s₁ s₂ : Bytes)
    (hb : IsBytes inp) (hs : IsBytes suf) (hlen : L.n ≤ inp.length) :
    f (inp ++ suf) s₁ = f inp s₂ := by
  rw [hc (inp ++ suf) s₁ (hb.append hs), hc inp s₂ hb]
  exact decode_append L hw inp suf hlen

/-- all thirteen decoders: the four clauses at once -/
theorem all_decoders (name : String) (L : Layout) (h : (name, L) ∈ BleSpec.layouts) :
    ∃ f, Gen.Ble.decodeByName name = some f ∧
      ∀ inp spare, IsBytes inp →
        (f inp spare = .err .tooShort ↔ inp.length < L.n) ∧ f inp spare ≠ .panic ∧
        (∀ spare', f inp spare' = f inp spare) ∧
        (∀ suf spare', IsBytes suf → L.n ≤ inp.length → f (inp ++ suf) spare' = f inp spare) := by
  obtain ⟨f, hf, hc⟩ := all_conform name L h
  have hw : within L = true := by
    have := List.all_eq_true.mp layouts_wellformed (name, L) h
    simp only [Bool.and_eq_true] at this
    exact this.2
  exact ⟨f, hf, fun inp spare hb => ⟨too_short_iff hc inp spare hb, never_panics hc inp spare hb,
    fun s' => spare_independent hc inp s' spare hb,
    fun suf s' hs hl => suffix_independent hc hw inp suf s' spare hb hs hl⟩⟩

/-- non-vacuity: the record lengths that used to be wrong (12-byte guard for the 13-byte AC charger record …) -/
example : BleSpec.acCharger.n = 13 ∧ BleSpec.multiRs.n = 14 ∧ BleSpec.veBus.n = 13 ∧ BleSpec.dcEnergyMeter.n = 11 ∧
    BleSpec.lynxSmartBms.n = 16 ∧ BleSpec.gxDevice.n = 11 := by decide
example : Gen.Ble.decodeLynxSmartBms (List.replicate 16 0) [] ≠ .panic := by decide

end Victron.C08
