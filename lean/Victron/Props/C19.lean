import Victron.Model.BleHandle
import Victron.Props.C08
import Victron.Proofs.Lists
/-
  C19 — BLE advertisement handling decrypts and dispatches correctly and never crashes.
  Model: `BleHandle.handle` (ble.go `handleNewManufacturerData`), `pkcs7`, `matchDevice`; the block cipher is a
  parameter `E` in every theorem (the executable AES of Model/Aes.lean is used by the driver only and is
  validated against crypto/aes through the correspondence: every plaintext the real handler logs is compared).
  `ble.New`, BlueZ discovery and the goroutines are not modelled (they need a daemon).
-/
namespace Victron.C19
open Victron Victron.Ble Victron.BleHandle

/-- **Padding** appends between 1 and blocksize bytes, each equal to the pad length, to reach a multiple of the
    block size — for every input and every block size 1..255. -/
theorem pkcs7_shape (data : Bytes) (bs : Nat) (h1 : 0 < bs) (h2 : bs ≤ 255) :
    ∃ p, 1 ≤ p ∧ p ≤ bs ∧ pkcs7 data bs = data ++ List.replicate p p ∧ (data.length + p) % bs = 0 := by
  have hr : data.length % bs < bs := Nat.mod_lt _ h1
  refine ⟨bs - data.length % bs, by omega, by omega, ?_, ?_⟩
  · unfold pkcs7
    simp only
    rw [Nat.mod_eq_of_lt (show bs - data.length % bs < 256 by omega)]
  · have hd := Nat.div_add_mod data.length bs
    have : data.length + (bs - data.length % bs) = bs * (data.length / bs + 1) := by
      rw [Nat.mul_add, Nat.mul_one]; omega
    rw [this, Nat.mul_mod_right]

variable (E : Bytes → Bytes → Bytes) (key iv : Bytes)

theorem keystream_length (hE : ∀ k b, (E k b).length = 16) (n : Nat) : (keystream E key iv n).length = n := by
  unfold keystream
  rw [List.length_take, ← List.flatMap_def, length_range_flatMap _ 16 (by simp [hE])]
  omega

/-- the key stream for a shorter message is a prefix of the key stream for a longer one -/
theorem keystream_prefix (hE : ∀ k b, (E k b).length = 16) (m n : Nat) (h : m ≤ n) :
    (keystream E key iv n).take m = keystream E key iv m := by
  unfold keystream
  simp only [← List.flatMap_def]
  have hab : (m + 15) / 16 ≤ (n + 15) / 16 := Nat.div_le_div_right (by omega)
  rw [List.take_take, Nat.min_eq_left h, ← take_range_flatMap _ 16 (by simp [hE]) hab, List.take_take,
    Nat.min_eq_left (by omega)]

/-- **CTR prefix.** The first bytes of the output depend only on the first bytes of the input: padding that is
    appended before decryption cannot alter the record bytes. -/
theorem ctr_prefix (hE : ∀ k b, (E k b).length = 16) (a b : Bytes) :
    (ctr E key iv (a ++ b)).take a.length = ctr E key iv a := by
  unfold ctr
  rw [List.take_zipWith, List.take_left', keystream_prefix E key iv hE _ _ (by simp)]
  rfl

theorem ctr_length (hE : ∀ k b, (E k b).length = 16) (a : Bytes) : (ctr E key iv a).length = a.length := by
  unfold ctr; rw [List.length_zipWith, keystream_length E key iv hE]; omega

/-- CTR decryption inverts CTR encryption under the same key and counter -/
theorem ctr_involutive (hE : ∀ k b, (E k b).length = 16) (a : Bytes) : ctr E key iv (ctr E key iv a) = a := by
  unfold ctr
  rw [List.length_zipWith, keystream_length E key iv hE, Nat.min_self]
  exact zipWith_xor_cancel _ _ (by rw [keystream_length E key iv hE]; exact Nat.le_refl _)

variable (dec : Bytes → Bytes → R Rec)

/-- payloads too short to hold the 8-byte header and data are ignored -/
theorem handle_short_ignored (raw : Bytes) (h : raw.length < 9) : handle E dec key raw = .ignored := by
  simp [handle, h]

/-- an invalid key length is reported, never used -/
theorem handle_bad_key (raw : Bytes) (h : ¬ raw.length < 9) (hk : ¬ (key.length = 16 ∨ key.length = 24 ∨ key.length = 32)) :
    handle E dec key raw = .cipherError := by
  simp only [handle, h, hk, if_false, not_false_eq_true, if_true]

/-- **Decrypt and dispatch.** Otherwise the record plaintext is the AES-CTR decryption of bytes 8 onward — the
    bytes themselves, not their padded extension — under the key with the little-endian 16-bit nonce of bytes
    5–6 as initial counter block, and a type 0x01 record is decoded exactly as the solar-charger decoder
    decodes that plaintext. -/
theorem handle_decrypts (hE : ∀ k b, (E k b).length = 16) (raw : Bytes) (h : ¬ raw.length < 9)
    (hk : key.length = 16 ∨ key.length = 24 ∨ key.length = 32) :
    let iv := [raw.getD 5 0, raw.getD 6 0] ++ List.replicate 14 0
    let plain := ctr E key iv (raw.drop 8)
    ∃ spare, handle E dec key raw =
      .plain plain (if raw.getD 4 0 = 1 then some (dec plain spare) else none) := by
  intro iv plain
  have hp : plain = (ctr E key iv (pkcs7 (raw.drop 8) 16)).take (raw.drop 8).length :=
    (ctr_prefix E key iv hE _ _).symm
  refine ⟨(ctr E key iv (pkcs7 (raw.drop 8) 16)).drop (raw.drop 8).length, ?_⟩
  rw [hp]
  simp only [handle, h, if_false]
  rw [if_neg (fun hn => hn hk)]
  split <;> rfl

theorem keystream_isBytes (hEb : ∀ k b, IsBytes (E k b)) (n : Nat) : IsBytes (keystream E key iv n) := by
  intro x hx
  have h2 := List.mem_of_mem_take hx
  simp only [List.mem_flatten, List.mem_map, List.mem_range] at h2
  obtain ⟨l, ⟨j, _, rfl⟩, hl⟩ := h2
  exact hEb _ _ _ (List.mem_of_mem_take hl)

theorem ctr_isBytes (hEb : ∀ k b, IsBytes (E k b)) (a : Bytes) (ha : IsBytes a) : IsBytes (ctr E key iv a) :=
  zipWith_xor_isBytes ha (keystream_isBytes E key iv hEb _)

/-- **Never crashes**: with the solar-charger decoder (which never panics, C08) the handler's result is never a
    panic — every payload, every key. -/
theorem handle_total (hE : ∀ k b, (E k b).length = 16) (hEb : ∀ k b, IsBytes (E k b)) (raw : Bytes) (hr : IsBytes raw) :
    ∀ p r, handle E Gen.Ble.decodeSolarChargeRecord key raw = .plain p (some r) → r ≠ .panic := by
  intro p r h
  by_cases hs : raw.length < 9
  · rw [handle_short_ignored E key _ raw hs] at h; cases h
  · by_cases hk : key.length = 16 ∨ key.length = 24 ∨ key.length = 32
    · obtain ⟨spare, he⟩ := handle_decrypts E key Gen.Ble.decodeSolarChargeRecord hE raw hs hk
      rw [he] at h
      split at h <;> cases h
      exact C08.never_panics C07.solarCharger _ _
        (ctr_isBytes E key _ hEb _ (hr.drop 8))
    · rw [handle_bad_key E key _ raw hs hk] at h; cases h

/-- **Device matching**: a device is matched exactly when the address, colons removed, hex-decodes to the
    configured MAC (the first such configuration); a malformed address matches nothing. -/
theorem match_iff (macs : List Bytes) (addr : Bytes) (i : Nat) :
    matchDevice macs addr = some i ↔ ∃ a, addrBytes addr = some a ∧ macs.findIdx? (· == a) = some i := by
  unfold matchDevice
  cases addrBytes addr <;> simp

theorem match_malformed (macs : List Bytes) (addr : Bytes) (h : addrBytes addr = none) : matchDevice macs addr = none := by
  simp [matchDevice, h]

theorem match_sound (macs : List Bytes) (addr : Bytes) (i : Nat) (h : matchDevice macs addr = some i) :
    ∃ a, addrBytes addr = some a ∧ macs[i]? = some a := by
  obtain ⟨a, ha, hf⟩ := (match_iff macs addr i).mp h
  refine ⟨a, ha, ?_⟩
  obtain ⟨hi, hx, _⟩ := List.findIdx?_eq_some_iff_getElem.mp hf
  simp only [beq_iff_eq] at hx
  rw [List.getElem?_eq_getElem hi, hx]

/-- non-vacuity: a malformed address matches nothing; case and colons do not matter -/
example : matchDevice [[0xd4, 0x9d]] ("D4:9D:ZZ".toList.map Char.toNat) = none ∧
    matchDevice [[0xd4, 0x9d]] ("d4:9D".toList.map Char.toNat) = some 0 := by decide
example : pkcs7 [1, 2, 3] 16 = [1, 2, 3] ++ List.replicate 13 13 := by decide
example : handle (fun _ _ => List.replicate 16 0) (fun _ _ => .err .tooShort) (List.replicate 16 0) [0,0,0,0,1,0,0,0] = .ignored := by decide

end Victron.C19
