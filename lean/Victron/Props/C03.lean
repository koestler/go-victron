import Victron.Spec.FrameLang
import Victron.Proofs.Calls
/-
  C03 — Every transmitted command is a well-formed HEX frame.
  Model: `txFrame` / `tx` (vecommand.go `sendCommand`), `Vd.*` (the driver on a scripted port).
-/
namespace Victron.C03
open Victron

/-- Any command nibble, any payload: the frame built by `sendCommand` is in the frame language and
    decodes to the payload followed by the check byte. -/
theorem txFrame_wellformed (cmd : Nat) (data : Bytes) (hc : cmd < 16) (hd : IsBytes data) :
    WellFormedFrame (txFrame cmd data) cmd (data ++ [checksum cmd data]) := by
  have hall := hd.append_checksum cmd
  refine ⟨hexDigit cmd, hexBytes (data ++ [checksum cmd data]), ?_, hexDigit_upper hc, unhexDigit_hexDigit hc,
    hexBytes_upper hall, ?_, unhex_hexBytes hall, by simp, ?_⟩
  · simp [txFrame, hexNoPad, hc, hexBytes, List.flatMap_cons]
  · rw [hexBytes_length]; omega
  · have := checksum_sum cmd data hd
    simp only [List.sum_append, List.sum_cons, List.sum_nil]
    omega

/-- C03, first sentence, for all seven commands and **all** addresses (not only 16-bit ones). -/
theorem tx_wellformed (cmd : Nat) (hc : cmd ∈ commands) (addr : Nat) :
    WellFormedFrame (tx cmd addr) cmd (paramFor cmd addr ++ [checksum cmd (paramFor cmd addr)]) := by
  have hlt : cmd < 16 := by
    simp [commands] at hc; omega
  have hb : IsBytes (paramFor cmd addr) := by
    unfold paramFor; split
    · exact isBytes_addr_flag (by omega) IsBytes.nil
    · exact IsBytes.nil
  exact txFrame_wellformed cmd _ hlt hb

/-- C03, second sentence: a Get (and a Set) for address `a` carries exactly `a_lo a_hi 00`;
    every other command carries no payload. -/
theorem tx_payload (cmd : Nat) (hc : cmd ∈ commands) (addr : Nat) :
    paramFor cmd addr = if cmd = 7 ∨ cmd = 8 then [addr % 256, addr / 256 % 256, 0] else [] := rfl

theorem ping_and_deviceId_carry_no_payload (addr : Nat) : paramFor 1 addr = [] ∧ paramFor 4 addr = [] := by
  constructor <;> rfl

/-- C03, third sentence, for a register access: whatever the port does (any replies, any faults, any
    pending bytes, any idle pattern), everything the driver writes during `VeCommandGet addr` is a
    sequence of at most eight copies of the one well-formed frame `tx 7 addr` — one per attempt. -/
theorem get_writes_are_frames (σ : Vd) (idles : List Bool) (addr : Nat) :
    ∃ k, k ≤ 8 ∧
      (σ.veCommandGet idles addr).1.port.written = List.replicate k (tx 7 addr) ++ σ.port.written ∧
      (σ.veCommandGet idles addr).1.port.nW ≤ σ.port.nW + 8 := by
  obtain ⟨n, k, hn, _, hk, hr⟩ := σ.veCommandGet_access idles addr
  exact ⟨k, by omega, hr.written, by rw [hr.nW]; omega⟩

/-- the same for the single-attempt calls: Ping, GetDeviceId, VeCommand -/
theorem command_writes_one_frame (σ : Vd) (idle : Bool) (cmd addr : Nat) :
    ∃ k, k ≤ 1 ∧ (σ.veCommand idle cmd addr).1.port.written = List.replicate k (tx cmd addr) ++ σ.port.written ∧
      (σ.veCommand idle cmd addr).1.port.nW = σ.port.nW + 1 := by
  have hr := σ.sendReceive_run idle cmd (paramFor cmd addr)
  rw [Vd.veCommand_eq]
  exact ⟨_, Bool.toNat_le _, hr.written, hr.nW⟩

/-! ### Histories (`frameOfCall`: Proofs/Calls.lean) -/

theorem doCall_written (σ : Vd) (c : C06.Call) :
    ∃ k, k ≤ 8 ∧ (C06.doCall σ c).1.port.written = List.replicate k (frameOfCall c) ++ σ.port.written := by
  obtain ⟨σ1, ⟨n, k, hn, _, hk, hr⟩, he⟩ := doCall_access σ c
  refine ⟨k, by omega, ?_⟩
  rw [he, ← hr.written]; split <;> simp [Vd.lineEnd_port]

/-- **Everything the driver writes, over any history of calls on one object**, is a sequence of the calls' own frames:
    what was asked before — how many registers, in which order, with what outcome — has no influence on the frame written
    for a call (the model keeps nothing between calls that a frame could be taken from). With `tx_wellformed`: every one
    of them is a well-formed frame carrying the call's own address. -/
theorem history_writes (cs : List C06.Call) (σ : Vd) :
    ∃ ws, (C06.history σ cs).1.port.written = ws ++ σ.port.written ∧ ∀ w ∈ ws, ∃ c ∈ cs, w = frameOfCall c := by
  induction cs generalizing σ with
  | nil => exact ⟨[], by simp [history_nil], by simp⟩
  | cons c cs ih =>
    obtain ⟨k, _, hw⟩ := doCall_written σ c
    obtain ⟨ws, h1, h2⟩ := ih (C06.doCall σ c).1
    refine ⟨ws ++ List.replicate k (frameOfCall c), by rw [history_cons, h1, hw]; simp, ?_⟩
    intro w hwm
    rcases List.mem_append.mp hwm with h | h
    · obtain ⟨c', hc', e⟩ := h2 w h
      exact ⟨c', by simp [hc'], e⟩
    · exact ⟨c, by simp, List.eq_of_mem_replicate h⟩

/-- non-vacuity: a concrete frame, `Get 0x0040`, whose check byte is below 0x10 (the case the `%X` defect broke) -/
example : tx 7 0x0040 = [58, 55, 52, 48, 48, 48, 48, 48, 48, 69, 10] := by decide   -- ":74000000E\n"
example : tx 1 0 = ":154\n".toList.map Char.toNat := by decide
example : tx 4 0 = ":451\n".toList.map Char.toNat := by decide

end Victron.C03
