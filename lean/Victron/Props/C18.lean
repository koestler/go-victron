import Victron.Model.FileLog
import Victron.Proofs.Calls
import Victron.Proofs.Logging
import Victron.Proofs.Replay
/-
  C18 — Logging is transparent and the I/O log replays.
  Model: `Vd` with `ioLog` / `dbg` configuration, the tx/rx capture buffers and emitted lines exactly as
  io.go / logging.go keep them; `FileLog.close` (fileLogger.go). The debug log's text is not modelled —
  only its absence of effect is claimed. The replay clause is a theorem about the model (`*_replay`: the
  lookup port is a port that answers the logged transmission with the logged reception) and is also
  exercised on the real code by the harness (every single-exchange line is replayed), see DESIGN.md.
-/
namespace Victron.C18
open Victron

/-- **Transparency.** Running any typed call on the state with its logger configuration and log buffers
    erased gives the same result and the same state up to erasure — hence the same bytes written, the
    same reads and flushes performed, the same pending bytes. Holds for every port script and fault plan. -/
theorem get_transparent (σ : Vd) (idles : List Bool) (addr : Nat) :
    σ.erase.veCommandGet idles addr = ((σ.veCommandGet idles addr).1.erase, (σ.veCommandGet idles addr).2) :=
  Vd.veCommandGetL_erase _ σ addr

theorem command_transparent (σ : Vd) (idle : Bool) (cmd addr : Nat) :
    σ.erase.veCommand idle cmd addr = ((σ.veCommand idle cmd addr).1.erase, (σ.veCommand idle cmd addr).2) :=
  Vd.veCommand_erase σ idle cmd addr

theorem ping_transparent (σ : Vd) (idle : Bool) :
    σ.erase.ping idle = ((σ.ping idle).1.erase, (σ.ping idle).2) := by
  rw [Vd.ping_eq, Vd.ping_eq, Vd.sendReceive_erase, Vd.erase_lineEnd, Vd.lineEnd_erase]

theorem deviceId_transparent (σ : Vd) (idle : Bool) :
    σ.erase.getDeviceId idle = ((σ.getDeviceId idle).1.erase, (σ.getDeviceId idle).2) := by
  rw [Vd.getDeviceId_eq, Vd.getDeviceId_eq, Vd.sendReceive_erase, Vd.erase_lineEnd, Vd.lineEnd_erase]

theorem uint_transparent (σ : Vd) (idles : List Bool) (addr : Nat) :
    σ.erase.getUint idles addr = ((σ.getUint idles addr).1.erase, (σ.getUint idles addr).2) := by
  rw [Vd.getUint_eq, Vd.getUint_eq, get_transparent, Vd.erase_lineEnd, Vd.lineEnd_erase]

theorem int_transparent (σ : Vd) (idles : List Bool) (addr : Nat) :
    σ.erase.getInt idles addr = ((σ.getInt idles addr).1.erase, (σ.getInt idles addr).2) := by
  rw [Vd.getInt_eq, Vd.getInt_eq, get_transparent, Vd.erase_lineEnd, Vd.lineEnd_erase]

theorem string_transparent (σ : Vd) (idles : List Bool) (addr : Nat) :
    σ.erase.getString idles addr = ((σ.getString idles addr).1.erase, (σ.getString idles addr).2) := by
  rw [Vd.getString_eq, Vd.getString_eq, get_transparent, Vd.erase_lineEnd, Vd.lineEnd_erase]

/-- the four logger configurations: two drivers that differ only in configuration and log buffers return
    the same result and produce the same traffic (`port` carries bytes written, reads, flushes) -/
theorem config_independent (σ₁ σ₂ : Vd) (h : σ₁.erase = σ₂.erase) (idles : List Bool) (addr : Nat) :
    (σ₁.getUint idles addr).2 = (σ₂.getUint idles addr).2 ∧
    (σ₁.getUint idles addr).1.port = (σ₂.getUint idles addr).1.port ∧
    (σ₁.getUint idles addr).1.buf = (σ₂.getUint idles addr).1.buf := by
  -- both runs are the run from the common erased state, up to erasure; `erase` keeps `port` and `buf`
  have := (uint_transparent σ₁ idles addr).symm.trans (h ▸ uint_transparent σ₂ idles addr)
  obtain ⟨h1, h2⟩ := Prod.mk.inj this
  exact ⟨h2, (congrArg Vd.port h1 :), (congrArg Vd.buf h1 :)⟩

/-- **One line per typed call.** With the I/O logger on and empty capture buffers, `GetUint` emits exactly
    one line; its tx part is the concatenation of the frames written during the call (`k ≤ 8` copies of
    the Get frame) and the capture buffers are empty again afterwards. -/
theorem uint_emits_one_line (σ : Vd) (idles : List Bool) (addr : Nat) (hio : σ.ioLog = true) (htx : σ.txBuf = []) :
    ∃ k rx, k ≤ 8 ∧
      (σ.getUint idles addr).1.lines = ⟨(List.replicate k (tx 7 addr)).flatten, rx⟩ :: σ.lines ∧
      (σ.getUint idles addr).1.port.written = List.replicate k (tx 7 addr) ++ σ.port.written ∧
      (σ.getUint idles addr).1.txBuf = [] ∧ (σ.getUint idles addr).1.rxBuf = [] := by
  obtain ⟨n, k, hn, _, hk, hr⟩ := σ.veCommandGet_access idles addr
  obtain ⟨_, ht, hi, hl⟩ := hr.tx
  rw [Vd.getUint_eq]
  simp only [Vd.lineEnd_on (hi.trans hio)]
  refine ⟨k, (σ.veCommandGet idles addr).1.rxBuf, by omega, ?_, hr.written, trivial, trivial⟩
  rw [ht, hl, hio, htx]; simp

/-- without the I/O logger no line is ever emitted -/
theorem no_logger_no_line (σ : Vd) (idles : List Bool) (addr : Nat) (hio : σ.ioLog = false) :
    (σ.getUint idles addr).1.lines = σ.lines := by
  obtain ⟨_, _, _, _, _, hr⟩ := σ.veCommandGet_access idles addr
  rw [Vd.getUint_eq]
  simp only [Vd.lineEnd_off (hr.tx.ioLog.trans hio)]
  exact hr.tx.lines

/-- **The I/O log replays.** A typed register read (I/O logger on, capture buffers empty) that completed in a
    single exchange — exactly one frame handed to the port — emits the line `⟨tx, rx⟩` where `tx` is the Get
    frame of the register, and on *any* driver whose port answers its next transmission with `rx`
    (`ReplayReady`: nothing pending, no write or read faults; in particular a freshly constructed driver on a lookup port
    holding the pair) the same read returns the same result — value or device error alike, whatever that
    driver's logger configuration and idle pattern. Since the replaying driver transmits `tx 7 addr` as well,
    the lookup by transmission hits. -/
theorem get_replay (σ : Vd) (idles : List Bool) (addr : Nat) (hio : σ.ioLog = true) (hrx : σ.rxBuf = [])
    (hone : (σ.veCommandGet idles addr).1.port.nW = σ.port.nW + 1)
    (σr : Vd) (hready : σr.ReplayReady (σ.veCommandGet idles addr).1.rxBuf) (idles' : List Bool) :
    (σr.veCommandGet idles' addr).2 = (σ.veCommandGet idles addr).2 ∧
    σ.TxInv (σ.veCommandGet idles addr).1 [tx 7 addr] := by
  obtain ⟨i, is, hi, his⟩ := idles8_eq_cons idles
  obtain ⟨i', is', hi', _⟩ := idles8_eq_cons idles'
  unfold Vd.veCommandGet at hone hready ⊢
  rw [hi] at hone hready ⊢
  rw [hi']
  exact Vd.veCommandGetL_replay i is his σ addr hio hrx hone σr hready i' is'

/-- the line a typed single-exchange read emits, and its replay: `f` is what the accessor makes of the raw result -/
theorem typed_replay {α : Type} (f : R Bytes → R α) (σ : Vd) (idles : List Bool) (addr : Nat)
    (hio : σ.ioLog = true) (htx : σ.txBuf = []) (hrx : σ.rxBuf = [])
    (hone : (σ.veCommandGet idles addr).1.lineEnd.port.nW = σ.port.nW + 1) :
    ∃ rx, (σ.veCommandGet idles addr).1.lineEnd.lines = ⟨tx 7 addr, rx⟩ :: σ.lines ∧
      ∀ (σr : Vd) (idles' : List Bool), σr.ReplayReady rx →
        f (σr.veCommandGet idles' addr).2 = f (σ.veCommandGet idles addr).2 := by
  rw [Vd.lineEnd_port] at hone
  refine ⟨(σ.veCommandGet idles addr).1.rxBuf, ?_, fun σr idles' hready =>
    congrArg f (get_replay σ idles addr hio hrx hone σr hready idles').1⟩
  obtain ⟨_, ⟨_, ht, hi, hl⟩⟩ := get_replay σ idles addr hio hrx hone (Vd.replayOf _ false false) (Vd.replayOf_ready _ _ _) []
  rw [Vd.lineEnd_on (hi.trans hio), ht, hl, hio, htx]; simp

/-- the line a single-exchange `GetUint` emits, and its replay -/
theorem uint_replay (σ : Vd) (idles : List Bool) (addr : Nat)
    (hio : σ.ioLog = true) (htx : σ.txBuf = []) (hrx : σ.rxBuf = [])
    (hone : (σ.getUint idles addr).1.port.nW = σ.port.nW + 1) :
    ∃ rx, (σ.getUint idles addr).1.lines = ⟨tx 7 addr, rx⟩ :: σ.lines ∧
      ∀ (σr : Vd) (idles' : List Bool), σr.ReplayReady rx →
        (σr.getUint idles' addr).2 = (σ.getUint idles addr).2 :=
  typed_replay (R.map' leUint) σ idles addr hio htx hrx hone

theorem int_replay (σ : Vd) (idles : List Bool) (addr : Nat)
    (hio : σ.ioLog = true) (htx : σ.txBuf = []) (hrx : σ.rxBuf = [])
    (hone : (σ.getInt idles addr).1.port.nW = σ.port.nW + 1) :
    ∃ rx, (σ.getInt idles addr).1.lines = ⟨tx 7 addr, rx⟩ :: σ.lines ∧
      ∀ (σr : Vd) (idles' : List Bool), σr.ReplayReady rx →
        (σr.getInt idles' addr).2 = (σ.getInt idles addr).2 :=
  typed_replay (·.bind leInt) σ idles addr hio htx hrx hone

theorem string_replay (σ : Vd) (idles : List Bool) (addr : Nat)
    (hio : σ.ioLog = true) (htx : σ.txBuf = []) (hrx : σ.rxBuf = [])
    (hone : (σ.getString idles addr).1.port.nW = σ.port.nW + 1) :
    ∃ rx, (σ.getString idles addr).1.lines = ⟨tx 7 addr, rx⟩ :: σ.lines ∧
      ∀ (σr : Vd) (idles' : List Bool), σr.ReplayReady rx →
        (σr.getString idles' addr).2 = (σ.getString idles addr).2 :=
  typed_replay (R.map' trimNul) σ idles addr hio htx hrx hone

/-- `Ping` and the device-id query are single exchanges by construction; when they obtained a response, the
    logged pair replays to the same result -/
theorem deviceId_replay (σ : Vd) (idle : Bool) (hio : σ.ioLog = true) (hrx : σ.rxBuf = [])
    (body : Bytes) (hsome : (σ.sendReceive idle 4 []).2 = some body)
    (σr : Vd) (hready : σr.ReplayReady (σ.sendReceive idle 4 []).1.rxBuf) (idle' : Bool) :
    (σr.getDeviceId idle').2 = (σ.getDeviceId idle).2 := by
  have hr := Vd.sendReceive_replay σ idle 4 [] body hio hrx hsome σr hready idle'
  rw [Vd.getDeviceId_eq, Vd.getDeviceId_eq, hr, hsome]

theorem ping_replay (σ : Vd) (idle : Bool) (hio : σ.ioLog = true) (hrx : σ.rxBuf = [])
    (body : Bytes) (hsome : (σ.sendReceive idle 1 []).2 = some body)
    (σr : Vd) (hready : σr.ReplayReady (σ.sendReceive idle 1 []).1.rxBuf) (idle' : Bool) :
    (σr.ping idle').2 = (σ.ping idle).2 := by
  have hr := Vd.sendReceive_replay σ idle 1 [] body hio hrx hsome σr hready idle'
  rw [Vd.ping_eq, Vd.ping_eq, hr, hsome]

/-- non-vacuity of the replay theorems: a logged single-exchange read and its replay on a fresh driver -/
example :
    let σ : Vd := { port := { replies := [[[1, 2, 3] ++ frameOf (getResponseBody 1 0 [5]) ++ [7]]] }, ioLog := true }
    (σ.getUint [true] 1).1.port.nW = σ.port.nW + 1 ∧
    (σ.getUint [true] 1).1.lines = [⟨tx 7 1, [1, 2, 3] ++ frameOf (getResponseBody 1 0 [5])⟩] ∧
    ((Vd.replayOf ([1, 2, 3] ++ frameOf (getResponseBody 1 0 [5])) false false).getUint [] 1).2 = .ok 5 ∧
    (σ.getUint [true] 1).2 = .ok 5 := by decide

/-- **File logger.** After `Close` the file holds its previous content followed by every line, in order,
    each terminated by a newline. -/
theorem file_append (prev : Bytes) (lines : List Bytes) :
    FileLog.close prev lines = prev ++ (lines.map (· ++ [10])).flatten := rfl

theorem file_append_step (prev : Bytes) (lines : List Bytes) (l : Bytes) :
    FileLog.close prev (lines ++ [l]) = FileLog.close prev lines ++ l ++ [10] := by
  simp [FileLog.close]

/-- non-vacuity: a logged exchange -/
example : ((Vd.getUint { port := { replies := [[frameOf (getResponseBody 1 0 [5])]] }, ioLog := true } [true] 1).1.lines.length) = 1 := by decide

/-! ### Histories: one line per typed call, whatever came before (`isTyped`: Proofs/Calls.lean) -/

/-- one call: the logger switch is untouched and the number of lines grows by one exactly for a typed call with the
    I/O logger on -/
theorem doCall_lines (σ : Vd) (c : C06.Call) :
    (C06.doCall σ c).1.ioLog = σ.ioLog ∧
    (C06.doCall σ c).1.lines.length = σ.lines.length + (if σ.ioLog && isTyped c then 1 else 0) := by
  obtain ⟨σ1, ⟨_, _, _, _, _, hr⟩, he⟩ := doCall_access σ c
  obtain ⟨_, _, hi, hl⟩ := hr.tx
  rw [he]
  cases isTyped c <;> simp [Vd.lineEnd_ioLog, Vd.lineEnd_lines_length, hi, hl]

/-- **Exactly one line per typed call over any history on one driver object** (I/O logger on), none without the logger:
    failed, retried, refused and noisy calls included; raw `VeCommand`/`VeCommandGet` calls emit none. -/
theorem history_lines (cs : List C06.Call) (σ : Vd) :
    (C06.history σ cs).1.lines.length = σ.lines.length + (if σ.ioLog then (cs.filter isTyped).length else 0) := by
  suffices h : (C06.history σ cs).1.ioLog = σ.ioLog ∧ (C06.history σ cs).1.lines.length =
      σ.lines.length + (if σ.ioLog then (cs.filter isTyped).length else 0) from h.2
  induction cs generalizing σ with
  | nil => simp [history_nil]
  | cons c cs ih =>
    obtain ⟨h1, h2⟩ := doCall_lines σ c
    obtain ⟨g1, g2⟩ := ih (C06.doCall σ c).1
    rw [history_cons]
    refine ⟨g1.trans h1, ?_⟩
    simp only [g2, h1, h2]
    cases hio : σ.ioLog <;> cases ht : isTyped c <;> simp [ht] <;> omega

end Victron.C18
