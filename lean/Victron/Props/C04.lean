import Victron.Proofs.Stream
/-
  C04 — Resynchronisation and bounded retry.
  Model: `Vd.receiveResponse` (frame scanner), `Vd.veCommandGetL` (retry loop; `Vd.attempt`, Proofs/Loop.lean, is one
  pass of its body), `Vd.flushReceiver`.
  "idle" (more than 100 ms since the last command) is an input of the model; see DESIGN.md for the clock.
-/
namespace Victron.C04
open Victron

/-- **Resynchronisation** (no read faults): text-protocol noise without ':' and any number of asynchronous
    ':A…' frames in front of a complete frame are skipped; the scanner returns that frame's body and leaves
    exactly the bytes behind it pending — however the bytes are cut into chunks by the port. -/
theorem skip (segs : List (Bytes × Bytes)) (σ : Vd) (noise body rest : Bytes)
    (hrf : σ.port.rFail = []) (hsegs : ∀ s ∈ segs, 58 ∉ s.1 ∧ 10 ∉ s.2)
    (hnoise : 58 ∉ noise) (hbody : 10 ∉ body) (hA : ¬ (body.headD 0 = 65 ∧ body ≠ []))
    (hp : σ.pending = (segs.map asyncSeg).flatten ++ noise ++ 58 :: body ++ 10 :: rest) :
    ∃ σ', σ.receiveResponse = (σ', some body) ∧ σ'.pending = rest := by
  have h := Vd.receiveResponse_clean hrf
  rw [hp, scanAll_skip segs noise body rest hsegs hnoise hbody hA] at h
  exact ⟨_, Prod.ext rfl h.1, h.2⟩

/-- **Success within eight attempts.** If the first `k-1` attempts end in a retry (whatever made them:
    silence, noise, invalid frames, frames for other registers, partial frames, port faults) and at
    attempt `k ≤ 8` the bytes pending after the command was sent are skippable material followed by the
    valid matching frame, the read returns that frame's payload, having made exactly `k` Write calls — one frame each,
    unless a Write of a retried attempt failed. -/
theorem success_within_eight (pre post : List Bool) (i : Bool) (σ σk : Vd) (addr : Nat) (haddr : addr < 65536)
    (payload : Bytes) (hpl : IsBytes payload) (segs : List (Bytes × Bytes)) (noise rest : Bytes)
    (hpre : Vd.afterRetries pre σ addr = some σk)
    (hok : σk.sendOk i 7 (paramFor 7 addr) = true) (hrf : σk.port.rFail = [])
    (hsegs : ∀ s ∈ segs, 58 ∉ s.1 ∧ 10 ∉ s.2) (hnoise : 58 ∉ noise)
    (hpend : (σk.afterSend i 7 (paramFor 7 addr)).pending =
      (segs.map asyncSeg).flatten ++ noise ++ frameOf (getResponseBody addr 0 payload) ++ rest) :
    ∃ σ', Vd.veCommandGetL (pre ++ i :: post) σ addr = (σ', .ok payload) ∧
      σ'.port.nW = σ.port.nW + pre.length + 1 ∧ σ'.pending = rest :=
  Vd.veCommandGetL_frame pre i post haddr (flag := 0) (by omega) hpl rest hpre hok hrf hsegs hnoise hpend

/-- **Bounded retry.** If every one of the eight attempts ends in a retry, the call fails, having made
    exactly eight Write calls — and in no case more than eight (`C03.get_writes_are_frames`). -/
theorem give_up (idles : List Bool) (σ σ8 : Vd) (addr : Nat)
    (h : Vd.afterRetries (idles8 idles) σ addr = some σ8) :
    σ.veCommandGet idles addr = (σ8, .err .other) ∧ σ8.port.nW = σ.port.nW + 8 := by
  obtain ⟨_, _, hr⟩ := Vd.afterRetries_run h
  refine ⟨?_, by rw [hr.nW, idles8_length]⟩
  have := Vd.veCommandGetL_afterRetries (idles8 idles) [] h
  rwa [List.append_nil] at this

theorem writes_le_eight (σ : Vd) (idles : List Bool) (addr : Nat) :
    (σ.veCommandGet idles addr).1.port.nW ≤ σ.port.nW + 8 :=
  (σ.veCommandGet_access idles addr).nW_le

/-- **Stale bytes.** When the call comes after ≥ 100 ms of idleness (first attempt idle) and the port's
    flush works, nothing that was pending before the call — in the reader's buffer or in the port, an
    outdated valid response for the same register included — has any influence on the call. -/
theorem idle_flush (σ : Vd) (buf' : Bytes) (queue' : List Bytes) (idles : List Bool) (addr : Nat)
    (hf : σ.port.nF ∉ σ.port.fFail) :
    Vd.veCommandGet { σ with buf := buf', port := { σ.port with queue := queue' } } (true :: idles) addr
      = σ.veCommandGet (true :: idles) addr := by
  have hfl : Vd.flushReceiver { σ with buf := buf', port := { σ.port with queue := queue' } } = σ.flushReceiver := by
    simp [Vd.flushReceiver, Port.flush, hf]
  -- an idle exchange starts from the flushed state, and only from it
  have hsr : Vd.sendReceive { σ with buf := buf', port := { σ.port with queue := queue' } } true 7 (paramFor 7 addr)
      = σ.sendReceive true 7 (paramFor 7 addr) := by
    unfold Vd.sendReceive; simp only [if_true, hfl]
  unfold Vd.veCommandGet
  rw [idles8_cons_head, Vd.veCommandGetL_cons, Vd.veCommandGetL_cons, Vd.attempt_eq, Vd.attempt_eq, hsr]

/-- **Success against a whole device stream** (fault-free port). The bytes pending at the call together with
    what the device sends in answer to each command split as: `ws.length ≤ 7` *wasted units* — each either any
    amount of text noise and asynchronous frames followed by one complete frame the call cannot use (invalid,
    or a valid response for another register: `Junk.ok_other_register`), or a silence (nothing, noise, async
    frames or the beginning of a frame, with no complete frame) — then skippable material, the valid response
    for `addr`, and anything. Before an attempt that follows ≥ 100 ms of idleness whatever was pending is
    dropped (`Feeds`), an outdated response for `addr` included. The read returns the awaited response's
    payload, having written exactly one frame per wasted unit plus one, and leaves what follows pending. -/
theorem stream_success (ws : List (Bool × Waste)) (i : Bool) (post idles : List Bool) (σ : Vd) (addr : Nat) (haddr : addr < 65536)
    (payload : Bytes) (hpl : IsBytes payload) (hid : idles8 idles = ws.map (·.1) ++ i :: post)
    (hws : ∀ w ∈ ws, w.2.Ok addr)
    (segs : List (Bytes × Bytes)) (noise rest : Bytes)
    (hsegs : ∀ s ∈ segs, 58 ∉ s.1 ∧ 10 ∉ s.2) (hnoise : 58 ∉ noise) (hc : σ.port.Clean)
    (hfeed : Feeds σ.port.reply σ.port.nW σ.pending ws i
      ((segs.map asyncSeg).flatten ++ noise ++ frameOf (getResponseBody addr 0 payload) ++ rest)) :
    ∃ σ', σ.veCommandGet idles addr = (σ', .ok payload) ∧
      σ'.port.nW = σ.port.nW + ws.length + 1 ∧ σ'.pending = rest := by
  unfold Vd.veCommandGet
  rw [hid]
  exact Vd.veCommandGetL_stream ws i post haddr (flag := 0) (by omega) hpl hws rest hsegs hnoise hc hfeed

/-- the premise `hid` only says that there are at most seven wasted units -/
theorem stream_success_le_seven (ws : List (Bool × Waste)) (i : Bool) (post idles : List Bool)
    (hid : idles8 idles = ws.map (·.1) ++ i :: post) : ws.length ≤ 7 := by
  have := congrArg List.length hid
  rw [idles8_length] at this
  simp at this; omega

/-- **Giving up against a stream.** Eight wasted units in a row use up the eight attempts: the call fails with
    exactly eight frames written — even if the valid response follows right behind them. -/
theorem stream_give_up (ws : List (Bool × Waste)) (idles : List Bool) (σ : Vd) (addr : Nat)
    (hid : idles8 idles = ws.map (·.1)) (hws : ∀ w ∈ ws, w.2.Ok addr)
    (fin : Bytes) (hc : σ.port.Clean) (hfeed : Feeds σ.port.reply σ.port.nW σ.pending ws false fin) :
    ∃ σ8, σ.veCommandGet idles addr = (σ8, .err .other) ∧ σ8.port.nW = σ.port.nW + 8 ∧
      σ8.pending ++ σ8.port.reply σ8.port.nW = fin := by
  obtain ⟨σk, h, _, hp⟩ := Vd.afterRetries_stream ws false σ addr hws fin hc hfeed
  obtain ⟨h1, h2⟩ := give_up idles σ σk addr (by rw [hid]; exact h)
  exact ⟨σk, h1, h2, by simpa using hp⟩

/-- non-vacuity: silence, then a frame for another register, then the good frame behind noise and an async
    frame — accepted at attempt 3; and eight silent attempts — given up with eight frames written. -/
def good : Bytes := frameOf (getResponseBody 0x0100 0 [7])
def script : Port := { replies := [[], [frameOf (getResponseBody 0x0101 0 [9])],
  ["\r\nV\t12".toList.map Char.toNat, frameOf (65 :: hexBytes [1, 2]), good]] }
example : (Vd.veCommandGet { port := script } [true] 0x0100).2 = .ok [7] := by decide
example : (Vd.veCommandGet { port := script } [true] 0x0100).1.port.nW = 3 := by decide
example : (Vd.veCommandGet { port := {} } [true] 0x0100).2 = .err .other ∧
    (Vd.veCommandGet { port := {} } [true] 0x0100).1.port.nW = 8 := by decide
example : Vd.afterRetries [true, false] { port := script } 0x0100 ≠ none := by decide

/-- non-vacuity of `stream_success`: the device answers the first command with a valid response for another
    register and the second with text noise, an async frame and the awaited response -/
def script2 : Port := { replies := [[frameOf (getResponseBody 0x0101 0 [9])],
  ["\r\nV\t12".toList.map Char.toNat, frameOf (65 :: hexBytes [1, 2]), good]] }
def junk1 : Junk := { body := getResponseBody 0x0101 0 [9] }
example : junk1.Ok 0x0100 := Junk.ok_other_register 0x0100 0x0101 (by decide) (by decide) 0 (by decide) [9] (by decide) [] [] (by simp) (by simp)
example : Feeds script2.reply 0 [] [(false, .frame junk1)] false
    (([(("\r\nV\t12".toList.map Char.toNat), hexBytes [1, 2])].map asyncSeg).flatten ++ [] ++ frameOf (getResponseBody 0x0100 0 [7]) ++ []) :=
  ⟨[], by decide, trivial, by unfold Feeds; decide⟩
/-- the same behind a silent first attempt (`script` above) -/
example : Feeds script.reply 0 [] [(true, .silence [] []), (false, .frame junk1)] false
    (([(("\r\nV\t12".toList.map Char.toNat), hexBytes [1, 2])].map asyncSeg).flatten ++ [] ++ frameOf (getResponseBody 0x0100 0 [7]) ++ []) :=
  ⟨[], by decide, rfl, [], by decide, trivial, by unfold Feeds; decide⟩
example : Waste.Ok 0x0100 (.silence [] []) := ⟨by simp, Or.inl (by simp)⟩
example : (Vd.veCommandGet { port := script2 } [] 0x0100).2 = .ok [7] ∧
    (Vd.veCommandGet { port := script2 } [] 0x0100).1.port.nW = 2 := by decide

end Victron.C04
