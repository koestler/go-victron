import Victron.Gen.Tables
import Victron.Model.Tables
/-
  C14 — Enumerations: construction, index and name agree for every integer.
  `Gen.enums`: for each of the 20 factories the index-to-name map (`IntToStringMap()`) and the complete graph
  of the typed constructor `New(uint8)` over all 256 bytes, regenerated from /repo (T1).
  `EnumTable.newEnum` models `NewEnum(v int)` (range check, then `New(uint8(v))`) and is tied to the real
  `NewEnum` by the correspondence over [-70000, 70000] and extreme integers (T3).
-/
namespace Victron.C14
open Victron

def keys (T : EnumTable) : List Int := T.entries.map (·.1)

/-- one byte of one table: construction succeeds exactly on keys, with index = the byte and the mapped,
    non-empty name; otherwise the error is ErrInvalidEnumIdx -/
def byteOk (T : EnumTable) (b : Nat) : Bool :=
  match T.newEnum b, T.new b with
  | .ok (i, n), .ok (i', n') => i == (b : Int) && T.lookup b == some n && n != "" && i' == i && n' == n && (keys T).contains (b : Int)
  | .err e, .err e' => e == .invalidEnum && e' == .invalidEnum && !(keys T).contains (b : Int)
  | _, _ => false

def tableOk (T : EnumTable) : Bool :=
  (List.range 256).all (byteOk T) && T.entries.all (fun e => 0 ≤ e.1 && e.1 ≤ 255)

/-- on a byte `NewEnum` passes its range check and is the typed constructor's lookup: in the model, of any table -/
theorem new_eq_newEnum (T : EnumTable) {b : Nat} (hb : b < 256) : T.new b = T.newEnum b := by
  unfold EnumTable.newEnum EnumTable.new
  rw [if_neg (by omega), Int.toNat_natCast]

/-- `tableOk`, said of the entries instead of the 256 bytes: every accepted byte is its own index and maps to its non-empty
    name; every key lies in 0..255 and is an accepted byte. (A table has a dozen entries; the kernel evaluates this in a
    tenth of the time of `tableOk`, whose 5120 bytes each cost two lookups.) -/
def entriesOk (T : EnumTable) : Bool :=
  T.typed.all (fun e => e.2.1 == (e.1 : Int) && T.lookup e.1 == some e.2.2 && e.2.2 != "") &&
  (keys T).all (fun k => 0 ≤ k && k ≤ 255 && (T.typed.map (·.1)).contains k.toNat)

/-- kernel evaluation over the entries of all 20 tables -/
theorem entries_ok : Gen.enums.all entriesOk = true := by decide +kernel

theorem mem_keys_of_lookup {T : EnumTable} {v : Int} {n : String} (h : T.lookup v = some n) : v ∈ keys T := by
  unfold EnumTable.lookup at h
  obtain ⟨e, he, rfl⟩ := Option.map_eq_some_iff.mp h
  exact List.mem_map.mpr ⟨e, List.mem_of_find?_eq_some he, by simpa using List.find?_some he⟩

/-- The typed constructor looks the byte up among the accepted ones. Found, the entry says all that `byteOk` asks; not
    found, the byte is no key, because every key is an accepted byte. -/
theorem byteOk_of_entriesOk {T : EnumTable} (h : entriesOk T = true) {b : Nat} (hb : b < 256) : byteOk T b = true := by
  simp only [entriesOk, Bool.and_eq_true, List.all_eq_true, decide_eq_true_eq, beq_iff_eq, bne_iff_ne, ne_eq,
    List.contains_eq_mem] at h
  obtain ⟨ht, hk⟩ := h
  unfold byteOk
  rw [← new_eq_newEnum T hb]
  unfold EnumTable.new
  cases hf : T.typed.find? (·.1 == b) with
  | none =>
    simp only [Bool.and_eq_true, beq_iff_eq, Bool.not_eq_true', List.contains_eq_mem, decide_eq_false_iff_not, true_and]
    intro hmem
    obtain ⟨_, hc⟩ := hk _ hmem
    rw [Int.toNat_natCast] at hc
    obtain ⟨e, he, hbe⟩ := List.mem_map.mp hc
    exact List.find?_eq_none.mp hf e he (beq_iff_eq.mpr hbe)
  | some e =>
    obtain ⟨b', idx, name⟩ := e
    obtain rfl : b' = b := by simpa using List.find?_some hf
    obtain ⟨⟨hi, hl⟩, hn⟩ := ht _ (List.mem_of_find?_eq_some hf)
    simp only at hi hl hn
    simp [hi, hl, hn, mem_keys_of_lookup hl]

theorem tableOk_of_entriesOk {T : EnumTable} (h : entriesOk T = true) : tableOk T = true := by
  unfold tableOk
  rw [Bool.and_eq_true, List.all_eq_true, List.all_eq_true]
  refine ⟨fun b hb => byteOk_of_entriesOk h (List.mem_range.mp hb), fun e he => ?_⟩
  simp only [entriesOk, Bool.and_eq_true, List.all_eq_true, decide_eq_true_eq] at h
  have := h.2 e.1 (List.mem_map_of_mem he)
  simp [this.1.1, this.1.2]

/-- all 20 tables x all 256 bytes -/
theorem tables_ok : Gen.enums.all tableOk = true :=
  List.all_eq_true.mpr fun T hT => tableOk_of_entriesOk (List.all_eq_true.mp entries_ok T hT)

theorem twenty : Gen.enums.length = 20 := by decide +kernel

theorem byteOk_spec {T : EnumTable} {b : Nat} (h : byteOk T b = true) :
    T.new b = T.newEnum b ∧
    ((∃ n, T.newEnum b = .ok ((b : Int), n) ∧ T.lookup b = some n ∧ n ≠ "" ∧ (b : Int) ∈ keys T) ∨
     (T.newEnum b = .err .invalidEnum ∧ (b : Int) ∉ keys T)) := by
  unfold byteOk at h
  split at h
  · rename_i i n i' n' h1 h2
    simp only [Bool.and_eq_true, beq_iff_eq, bne_iff_ne, ne_eq, List.contains_eq_mem, decide_eq_true_eq] at h
    obtain ⟨⟨⟨⟨⟨rfl, hl⟩, hn⟩, rfl⟩, rfl⟩, hk⟩ := h
    exact ⟨by rw [h1, h2], .inl ⟨_, h1, hl, hn, hk⟩⟩
  · rename_i e e' h1 h2
    simp only [Bool.and_eq_true, beq_iff_eq, Bool.not_eq_true', List.contains_eq_mem, decide_eq_false_iff_not] at h
    obtain ⟨⟨rfl, rfl⟩, hk⟩ := h
    exact ⟨by rw [h1, h2], .inr ⟨h1, hk⟩⟩
  · cases h

theorem tableOk_spec {T : EnumTable} (h : tableOk T = true) :
    (∀ b < 256, byteOk T b = true) ∧ ∀ k ∈ keys T, 0 ≤ k ∧ k ≤ 255 := by
  simp only [tableOk, Bool.and_eq_true, List.all_eq_true, List.mem_range, decide_eq_true_eq] at h
  exact ⟨h.1, fun k hk => by obtain ⟨e, he, rfl⟩ := List.mem_map.mp hk; exact h.2 e he⟩

/-- **Every integer v**, for a table that passes the check: either `v` is a key and construction yields index `v` with
    the mapped, non-empty name, or `v` is no key and the error is ErrInvalidEnumIdx. Outside 0..255 the range check of
    `NewEnum` answers, inside it the check of the byte. -/
theorem newEnum_cases {T : EnumTable} (hT : tableOk T = true) (v : Int) :
    (∃ n, T.newEnum v = .ok (v, n) ∧ T.lookup v = some n ∧ n ≠ "" ∧ v ∈ keys T) ∨
    (T.newEnum v = .err .invalidEnum ∧ v ∉ keys T) := by
  by_cases hr : v < 0 ∨ v > 255
  · exact .inr ⟨by simp [EnumTable.newEnum, hr], fun hk => by have := (tableOk_spec hT).2 v hk; omega⟩
  · obtain ⟨b, rfl⟩ : ∃ b : Nat, v = (b : Int) := ⟨v.toNat, by omega⟩
    exact (byteOk_spec ((tableOk_spec hT).1 b (by omega))).2

theorem table_ok {T : EnumTable} (hT : T ∈ Gen.enums) : tableOk T = true := List.all_eq_true.mp tables_ok T hT

/-- **For every enumeration and EVERY integer v**: construction succeeds iff v is a key of the
    index-to-name map. -/
theorem newEnum_iff (T : EnumTable) (hT : T ∈ Gen.enums) (v : Int) : (T.newEnum v).isOk = true ↔ v ∈ keys T := by
  rcases newEnum_cases (table_ok hT) v with ⟨n, h, _, _, hk⟩ | ⟨h, hk⟩ <;> simp [h, hk, R.isOk]

/-- the constant then reports index v and the mapped, non-empty name -/
theorem newEnum_value (T : EnumTable) (hT : T ∈ Gen.enums) (v i : Int) (n : String) (h : T.newEnum v = .ok (i, n)) :
    i = v ∧ T.lookup v = some n ∧ n ≠ "" := by
  rcases newEnum_cases (table_ok hT) v with ⟨n', h', hl, hn, _⟩ | ⟨h', _⟩ <;> rw [h'] at h <;> cases h
  exact ⟨rfl, hl, hn⟩

/-- otherwise the error matches ErrInvalidEnumIdx (never a panic, never another error) -/
theorem newEnum_error (T : EnumTable) (hT : T ∈ Gen.enums) (v : Int) (h : v ∉ keys T) : T.newEnum v = .err .invalidEnum := by
  rcases newEnum_cases (table_ok hT) v with ⟨_, _, _, _, hk⟩ | ⟨h', _⟩
  · exact absurd hk h
  · exact h'

/-- the typed constructors agree with `NewEnum` on all 256 bytes -/
theorem typed_agrees (T : EnumTable) (hT : T ∈ Gen.enums) (b : Nat) (hb : b < 256) : T.new b = T.newEnum b :=
  new_eq_newEnum T hb

/-- non-vacuity: 9 is a key of InverterState; 265 = 9 + 256 and -247 are not accepted (the uint8 wrap-around) -/
example : Gen.enumInverterState ∈ Gen.enums := by decide +kernel
example : Gen.enumInverterState.newEnum 9 = .ok (9, "Inverting") := by decide +kernel
example : Gen.enumInverterState.newEnum 265 = .err .invalidEnum ∧ Gen.enumInverterState.newEnum (-247) = .err .invalidEnum := by decide +kernel

end Victron.C14
