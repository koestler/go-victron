import Victron.Proofs.Loop
/-
  C02 — Register values round-trip exactly through the wire encoding.
  Model: `leUint`, `leInt`, `trimNul` (binaryParser.go, vedirect.go), `parseResponse`/`getStep`, and the
  device side `encodeLE`, `getResponseBody` (what a protocol-conforming device sends).
-/
namespace Victron.C02
open Victron

/-- unsigned: every value that fits `w ≤ 8` bytes comes back exactly -/
theorem uint_roundtrip (w v : Nat) (hw : w ≤ 8) (hv : v < 256 ^ w) : leUint (encodeLE w v) = v := by
  unfold leUint
  rw [List.take_of_length_le (by rw [encodeLE_length]; exact hw), leNat_encodeLE, Nat.mod_eq_of_lt hv]

/-- more than eight bytes: the first eight are read (as the code documents) -/
theorem uint_first_eight (bs : Bytes) : leUint bs = leNat (bs.take 8) := rfl

/-- two's complement at any width: the residue of `v` modulo `2^w` reads back as `v` over the whole signed range -/
theorem toS_emod (w : Nat) (hw : 0 < w) (v : Int) (h1 : -(2 ^ (w - 1) : Int) ≤ v) (h2 : v < 2 ^ (w - 1)) :
    toS w (v % (2 ^ w : Nat)).toNat = v := by
  obtain ⟨k, rfl⟩ : ∃ k, w = k + 1 := ⟨w - 1, by omega⟩
  have e : (2 : Nat) ^ (k + 1) = 2 * 2 ^ k := by rw [Nat.pow_succ, Nat.mul_comm]
  have e' : (2 : Int) ^ k = ((2 ^ k : Nat) : Int) := by simp
  unfold toS
  simp only [Nat.add_sub_cancel, e, e'] at *
  generalize (2 : Nat) ^ k = p at *
  -- omega does not look into `%` by a variable: say what the residue is first
  have hm : v % ((2 * p : Nat) : Int) = if 0 ≤ v then v else v + (2 * p : Nat) := by
    split
    · exact Int.emod_eq_of_lt (by omega) (by omega)
    · rw [← Int.add_emod_right]; exact Int.emod_eq_of_lt (by omega) (by omega)
  rw [hm]
  by_cases hv : 0 ≤ v
  · rw [if_pos hv, Nat.mod_eq_of_lt (by omega), if_pos (by omega)]; omega
  · rw [if_neg hv, Nat.mod_eq_of_lt (by omega), if_neg (by omega)]; omega

/-- what a device sends for the signed value `v` in `w` bytes: the two's complement residue, little-endian -/
def encodeSigned (w : Nat) (v : Int) : Bytes := encodeLE w (v % (256 ^ w : Nat)).toNat

theorem leInt_encodeLE (w n : Nat) (hw : w = 1 ∨ w = 2 ∨ w = 4 ∨ w = 8) :
    leInt (encodeLE w n) = .ok (toS (8 * w) (n % 256 ^ w)) := by
  unfold leInt
  rw [encodeLE_length, if_pos hw, leNat_encodeLE]

/-- signed: every value of the 1-, 2-, 4- and 8-byte ranges comes back exactly, sign-extended according to
    the width actually sent -/
theorem int_roundtrip (w : Nat) (v : Int) (hw : w = 1 ∨ w = 2 ∨ w = 4 ∨ w = 8)
    (hlo : -(2 ^ (8 * w - 1) : Int) ≤ v) (hhi : v < 2 ^ (8 * w - 1)) :
    leInt (encodeSigned w v) = .ok v := by
  have hpos : (0 : Int) < ((256 ^ w : Nat) : Int) := Int.natCast_pos.mpr (Nat.pow_pos (by omega))
  have hlt : (v % ((256 ^ w : Nat) : Int)).toNat < 256 ^ w := by
    have := Int.emod_lt_of_pos v hpos; omega
  unfold encodeSigned
  rw [leInt_encodeLE _ _ hw, Nat.mod_eq_of_lt hlt, show (256 : Nat) ^ w = 2 ^ (8 * w) by rw [Nat.pow_mul]]
  exact congrArg _ (toS_emod (8 * w) (by omega) v hlo hhi)

/-- a width the signed accessor cannot interpret (0, 3, 5, 6, 7, > 8 bytes) is an error, not a guess -/
theorem int_width_error (bs : Bytes) (h : ¬ (bs.length = 1 ∨ bs.length = 2 ∨ bs.length = 4 ∨ bs.length = 8)) :
    leInt bs = .err .other := by
  unfold leInt; rw [if_neg h]

/-- text: trailing NULs are stripped and every other byte (interior NULs included) is preserved -/
theorem string_roundtrip (s : Bytes) (k : Nat) (h : s = [] ∨ s.getLast? ≠ some 0) :
    trimNul (s ++ List.replicate k 0) = s := by
  have hs : s.reverse.dropWhile (· == 0) = s.reverse := by
    rcases h with rfl | h
    · rfl
    · exact List.dropWhile_beq_eq_self_of_head?_ne (by rwa [List.head?_reverse])
  rw [trimNul, List.reverse_append, List.reverse_replicate,
    List.dropWhile_append_of_pos (fun a ha => by simp [List.eq_of_mem_replicate ha]), hs, List.reverse_reverse]

theorem deviceId_roundtrip (id : Nat) (h : id < 65536) : leNat ((encodeLE 2 id).take 2) = id := by
  rw [List.take_of_length_le (by rw [encodeLE_length]; omega), leNat_encodeLE]; omega

/-- **Wire round trip (decode ∘ encode).** For every address, every payload a device can hold and flag 0:
    the body `7 addr_lo addr_hi 00 payload ck` in upper-case hex is accepted by `VeCommand`, and
    `VeCommandGet`'s step extracts exactly `payload` — any length, any content. -/
theorem wire_roundtrip (addr : Nat) (haddr : addr < 65536) (payload : Bytes) (hp : IsBytes payload) :
    ∃ ck, parseResponse 7 (getResponseBody addr 0 payload) = .ok ⟨[addr % 256, addr / 256 % 256, 0] ++ payload, [ck]⟩ ∧
      getStep addr ⟨[addr % 256, addr / 256 % 256, 0] ++ payload, [ck]⟩ = .value payload :=
  ⟨_, parseResponse_getResponseBody addr 0 (by omega) payload hp,
    by rw [getStep_response addr addr haddr 0 (by omega), if_neg (by simp)]; rfl⟩

/-- **End to end through the driver.** On a fresh driver (idle first attempt), with a port that does not
    fail, a device answering the first attempt with that frame — in one chunk, possibly behind noise
    and async frames — makes `VeCommandGet` return exactly `payload`, having written one frame. -/
theorem get_roundtrip (σ : Vd) (idles : List Bool) (addr : Nat) (haddr : addr < 65536) (payload : Bytes) (hp : IsBytes payload)
    (hw : σ.port.wFail = []) (hr : σ.port.rFail = []) (hff : σ.port.fFail = [])
    (hreply : σ.port.replies.getD σ.port.nW [] = [frameOf (getResponseBody addr 0 payload)]) :
    (σ.veCommandGet (true :: idles) addr).2 = .ok payload := by
  obtain ⟨hok, hp'⟩ := σ.afterSend_clean true 7 (paramFor 7 addr) ⟨hw, hr, hff⟩
  have hi : idles8 (true :: idles) = [] ++ true :: (idles8 (true :: idles)).tail := idles8_cons_head true idles
  obtain ⟨σ', h, _⟩ := Vd.veCommandGetL_frame [] true (idles8 (true :: idles)).tail haddr (flag := 0) (by omega) hp
    (segs := []) (noise := []) [] rfl hok hr (by simp) (by simp) (by rw [hp']; simp only [Port.reply, hreply]; simp)
  unfold Vd.veCommandGet
  rw [hi, h]; rfl

/-- non-vacuity of `get_roundtrip`'s hypotheses and a concrete instance: value 0x1234 at 0xEDF0 -/
example : ((Vd.veCommandGet { port := { replies := [[frameOf (getResponseBody 0xEDF0 0 [0x34, 0x12])]] } } [true] 0xEDF0).2) = .ok [0x34, 0x12] := by decide
example : leInt (encodeSigned 2 (-2)) = .ok (-2) := by decide
example : trimNul ([72, 0, 81] ++ List.replicate 3 0) = [72, 0, 81] := by decide

end Victron.C02
