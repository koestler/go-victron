import Victron.Model.Tables
import Victron.Proofs.Lists
/-
  C16 — A register list behaves as four ordered sequences under any operation history.
  Model = spec: `RegList` (registerList.go, filter.go) *is* four lists with `List.append`, `List.filter` and
  core's stable `List.mergeSort`; the tie to the Go container (slices, generics, sort.SliceStable) is the
  correspondence on operation sequences (T3, exhaustive for short sequences over a small alphabet).
-/
namespace Victron.C16
open Victron

inductive Op where
  | appendN (rs : List Reg) | appendT (rs : List Reg) | appendE (rs : List Reg) | appendF (rs : List Reg)
  | filter (p : Reg → Bool)
  | filterByName (names : List String)

def step (rl : RegList) : Op → RegList
  | .appendN rs => rl.appendN rs
  | .appendT rs => rl.appendT rs
  | .appendE rs => rl.appendE rs
  | .appendF rs => rl.appendF rs
  | .filter p => rl.filter p
  | .filterByName ns => rl.filterByName ns

def run (ops : List Op) (rl : RegList) : RegList := ops.foldl step rl

/-- what one plain ordered sequence of kind `k` (1..4) does under an operation -/
def seqStep (k : Nat) (l : List Reg) : Op → List Reg
  | .appendN rs => if k = 1 then l ++ rs else l
  | .appendT rs => if k = 2 then l ++ rs else l
  | .appendE rs => if k = 3 then l ++ rs else l
  | .appendF rs => if k = 4 then l ++ rs else l
  | .filter p => l.filter p
  | .filterByName ns => l.filter (fun r => !ns.contains r.name)

/-- **Refinement.** After any sequence of appends and filters the list equals what four plain ordered
    sequences would hold: appends add at the end of the matching sequence and leave the others alone, a
    filter keeps exactly the elements satisfying the predicate in their original order, a name filter drops
    exactly the named registers. -/
theorem run_refines (ops : List Op) (rl : RegList) :
    run ops rl = ⟨ops.foldl (seqStep 1) rl.n, ops.foldl (seqStep 2) rl.t, ops.foldl (seqStep 3) rl.e, ops.foldl (seqStep 4) rl.f⟩ := by
  induction ops generalizing rl with
  | nil => rfl
  | cons op ops ih =>
    simp only [run, List.foldl_cons] at ih ⊢
    rw [ih]
    cases op <;> rfl

theorem filter_keeps_order (l : List Reg) (p : Reg → Bool) : (l.filter p).Sublist l ∧ ∀ r, r ∈ l.filter p ↔ r ∈ l ∧ p r = true :=
  ⟨List.filter_sublist, fun _ => List.mem_filter⟩

theorem name_filter_drops_named (l : List Reg) (ns : List String) (r : Reg) :
    r ∈ l.filter (fun r => !ns.contains r.name) ↔ r ∈ l ∧ r.name ∉ ns := by
  simp [List.mem_filter]

theorem len_total (rl : RegList) : rl.len = rl.all.length := by
  simp [RegList.len, RegList.all]; omega

/-- the combined view holds exactly the elements of the four sequences … -/
theorem getRegisters_perm (rl : RegList) : rl.getRegisters.Perm rl.all := List.mergeSort_perm _ _

/-- … in non-decreasing sort-key order … -/
theorem getRegisters_sorted (rl : RegList) : rl.getRegisters.Pairwise (fun a b => a.sort ≤ b.sort) :=
  pairwise_mergeSort_key Reg.sort rl.all

/-- … and stably: elements with equal sort keys keep the order numbers, texts, enums, field lists and their
    order within each sequence (every sorted sublist of the concatenation survives as a sublist) -/
theorem getRegisters_stable (rl : RegList) (c : List Reg) (hc : c.Sublist rl.all)
    (hs : c.Pairwise (fun a b => a.sort ≤ b.sort)) : c.Sublist rl.getRegisters :=
  sublist_mergeSort_key Reg.sort hc hs

/-- non-vacuity: a concrete history -/
def r (k : Nat) (n : String) (s : Int) : Reg := ⟨k, "", n, "", s, 0, false, false, false, 1, "0", "", ""⟩
def demo : RegList := run [.appendN [r 1 "a" 5, r 1 "b" 1], .appendT [r 2 "c" 1], .filterByName ["a"], .appendN [r 1 "d" 1]] {}
example : demo.n.map (·.name) = ["b", "d"] ∧ demo.t.map (·.name) = ["c"] ∧ demo.len = 3 := by decide +kernel
example : [r 1 "b" 1, r 2 "c" 1].Sublist demo.all ∧ [r 1 "b" 1, r 2 "c" 1].Pairwise (fun a b => a.sort ≤ b.sort) := by
  refine ⟨by decide +kernel, by simp [r]⟩

end Victron.C16
