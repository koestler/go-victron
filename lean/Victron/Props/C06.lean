import Victron.Proofs.Calls
/-
  C06 — No device behaviour or port failure can crash or hang the driver.
  Model: the whole `Vd` machine with the fault plan (failing Write / Read / Flush at any call index) and
  `R.panic` for every bounds check of `VeCommand`, `VeCommandGet`, `GetDeviceId`.
  Termination: every definition of the model is a total function accepted by Lean's termination checker
  (structural recursion; the scanner's fuel is the number of pending bytes + 1, and `Proofs/Recv.lean`
  shows that fuel is enough) — that is the no-hang argument for finite byte streams.
-/
namespace Victron.C06
open Victron

/-- `VeCommand` never panics: whatever the port does, whatever was received -/
theorem veCommand_no_panic (σ : Vd) (idle : Bool) (cmd addr : Nat) : (σ.veCommand idle cmd addr).2 ≠ .panic := by
  rw [Vd.veCommand_eq]
  split
  · simp
  · exact parseResponse_ne_panic _ _

/-- `VeCommandGet` never panics — for every state, port script, fault plan, idle pattern and address -/
theorem get_no_panic (idles : List Bool) (σ : Vd) (addr : Nat) : (Vd.veCommandGetL idles σ addr).2 ≠ .panic := by
  intro hp
  -- a result other than "gave up" is the verdict of the decisive attempt
  obtain ⟨_, _, _, _, _, _, _, _, hv⟩ := Vd.veCommandGetL_done (r := .panic) (Prod.ext rfl hp) (by simp)
  exact verdict_ne_panic _ _ hv

theorem typed_no_panic (σ : Vd) (idles : List Bool) (addr : Nat) :
    (σ.veCommandGet idles addr).2 ≠ .panic ∧ (σ.getUint idles addr).2 ≠ .panic ∧
    (σ.getInt idles addr).2 ≠ .panic ∧ (σ.getString idles addr).2 ≠ .panic := by
  have h : (σ.veCommandGet idles addr).2 ≠ .panic := get_no_panic _ σ addr
  rw [Vd.getUint_eq, Vd.getInt_eq, Vd.getString_eq]
  refine ⟨h, R.map'_ne_panic _ h, R.bind_ne_panic h fun v _ => ?_, R.map'_ne_panic _ h⟩
  -- `leInt` returns a value or an error
  unfold leInt; split <;> simp

/-- `GetDeviceId` never panics: an accepted body always carries at least two payload bytes -/
theorem deviceId_no_panic (σ : Vd) (idle : Bool) : (σ.getDeviceId idle).2 ≠ .panic := by
  rw [Vd.getDeviceId_eq]
  split
  · simp
  · rename_i resp _
    refine R.bind_ne_panic (parseResponse_ne_panic 4 resp) fun raw hp => ?_
    obtain ⟨ck, hv⟩ := parseResponse_ok hp
    rw [if_neg (by have := hv.two_le; omega)]; simp

theorem ping_no_panic (σ : Vd) (idle : Bool) : (σ.ping idle).2 ≠ .panic := by
  rw [Vd.ping_eq]; split <;> simp

/-- at most eight frames per register access (exactly one per Ping / device-id query: `C03.command_writes_one_frame`) -/
theorem writes_bounded (σ : Vd) (idles : List Bool) (addr : Nat) :
    (σ.veCommandGet idles addr).1.port.nW ≤ σ.port.nW + 8 :=
  (σ.veCommandGet_access idles addr).nW_le

/-- **Bounded reads.** Every Read either delivers a chunk the device actually sent or ends the attempt.
    With `credit` = chunks waiting in the port + chunks the device will still send for the commands to come,
    a register access performs at most `credit + 8` Reads: once the port reports no more data (credit 0)
    at most eight — one per attempt. -/
theorem reads_bounded (σ : Vd) (idles : List Bool) (addr : Nat) :
    (σ.veCommandGet idles addr).1.port.nR ≤ σ.port.nR + σ.port.credit + 8 := by
  obtain ⟨n, _, hn, _, _, hr⟩ := σ.veCommandGet_access idles addr
  have := hr.pot; have := hr.nE
  simp only [Port.pot] at *; omega

/-- **…and only a bounded number of reads once the port reports no more data.** A Read that delivers nothing — end of
    data or an error — ends the attempt it occurs in, so a register access performs at most eight of them (one per
    attempt), a single command at most one: whatever the device sent before, however the bytes were chunked. -/
theorem failing_reads_bounded (σ : Vd) (idles : List Bool) (addr : Nat) :
    (σ.veCommandGet idles addr).1.port.nE ≤ σ.port.nE + 8 :=
  (σ.veCommandGet_access idles addr).nE_le

theorem command_failing_reads_bounded (σ : Vd) (idle : Bool) (cmd : Nat) (data : Bytes) :
    (σ.sendReceive idle cmd data).1.port.nE ≤ σ.port.nE + 1 :=
  (σ.sendReceive_run idle cmd data).nE

/-! ### Histories: any number of calls on one driver object (`Call`, `doCall`, `history`: Proofs/Calls.lean) -/

/-- one call, from any state: no panic, at most eight frames, at most eight reads that deliver nothing -/
theorem doCall_bounds (σ : Vd) (c : Call) :
    (doCall σ c).2 = false ∧ (doCall σ c).1.port.nW ≤ σ.port.nW + 8 ∧ (doCall σ c).1.port.nE ≤ σ.port.nE + 8 := by
  obtain ⟨σ1, ha, he⟩ := doCall_access σ c
  have hp : (doCall σ c).1.port = σ1.port := by rw [he]; split <;> simp [Vd.lineEnd_port]
  refine ⟨?_, hp ▸ ha.nW_le, hp ▸ ha.nE_le⟩
  cases c with
  | ping i => exact R.isPanic_eq_false (ping_no_panic σ i)
  | deviceId i => exact R.isPanic_eq_false (deviceId_no_panic σ i)
  | command i c a => exact R.isPanic_eq_false (veCommand_no_panic σ i c a)
  | getRaw is a => exact R.isPanic_eq_false (typed_no_panic σ is a).1
  | getUint is a => exact R.isPanic_eq_false (typed_no_panic σ is a).2.1
  | getInt is a => exact R.isPanic_eq_false (typed_no_panic σ is a).2.2.1
  | getString is a => exact R.isPanic_eq_false (typed_no_panic σ is a).2.2.2

/-- **Any history on one driver object** — the ninth, the sixty-fifth, the thousandth call like the first, whatever the
    port delivered, withheld or refused before: no call panics, and the calls together write at most eight frames each
    and perform at most eight reads that deliver nothing each. (The model has no state besides what `Vd` shows:
    nothing to count failures in, nothing cached between calls.) -/
theorem history_bounds (cs : List Call) (σ : Vd) :
    (history σ cs).2 = List.replicate cs.length false ∧
    (history σ cs).1.port.nW ≤ σ.port.nW + 8 * cs.length ∧
    (history σ cs).1.port.nE ≤ σ.port.nE + 8 * cs.length := by
  induction cs generalizing σ with
  | nil => simp [history_nil]
  | cons c cs ih =>
    obtain ⟨h1, h2, h3⟩ := doCall_bounds σ c
    obtain ⟨g1, g2, g3⟩ := ih (doCall σ c).1
    rw [history_cons, List.length_cons]
    exact ⟨by rw [g1, h1]; rfl, by simp only; omega, by simp only; omega⟩

/-- twelve unanswered reads in a row on one object: 96 frames, 96 reads at the end of data, no panic -/
example : (history { port := {} } (List.replicate 12 (.getUint [] 0xEDF0))).2 = List.replicate 12 false ∧
    (history { port := {} } (List.replicate 12 (.getUint [] 0xEDF0))).1.port.nW = 96 ∧
    (history { port := {} } (List.replicate 12 (.getUint [] 0xEDF0))).1.port.nE = 96 := by decide +kernel

/-- non-vacuity / witnesses of the shapes that used to crash: a check-byte-valid Get response with fewer
    than three payload bytes, an empty Done frame -/
example : (Vd.veCommandGet { port := { replies := List.replicate 8 [":700004E\n".toList.map Char.toNat] } } [true] 0).2 = .err .other := by decide
example : (Vd.getDeviceId { port := { replies := [[":154\n".toList.map Char.toNat]] } } true).2 = .err .other := by decide
example : (Vd.veCommandGet { port := { replies := [[[58]], [[55, 48]]], rFail := [1], wFail := [2], fFail := [0] } } [true, false, true] 0).2 = .err .other := by decide

end Victron.C06
