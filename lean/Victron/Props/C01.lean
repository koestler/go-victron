import Victron.Proofs.Calls
/-
  C01 — Receive integrity: only valid, matching Get responses are ever accepted.
  Model: `parseResponse`, `getStep` (vecommand.go), `Vd.*` (driver on the scripted port).
-/
namespace Victron.C01
open Victron

/-- the state right after an attempt's command frame was handed to the port (idle flush done, reply queued); the same
    function as `Vd.afterSend` (Proofs/Exchange.lean) -/
def afterSend (σ : Vd) (idle : Bool) (cmd : Nat) (data : Bytes) : Vd :=
  ((if idle then σ.flushReceiver else σ).write (txFrame cmd data)).1

/-- `VeCommand` returns a payload only if the bytes pending after the command was sent contain a complete
    frame `':' body '\n'` (no newline inside `body`) whose body is valid for the command: ≥ 7 characters,
    the expected response type, an even number of hex digits, correct check byte — and the payload returned
    is exactly the decoding of that body. -/
theorem veCommand_sound (σ σ' : Vd) (idle : Bool) (cmd addr : Nat) (s : Slice)
    (h : σ.veCommand idle cmd addr = (σ', .ok s)) :
    ∃ body skipped ck,
      (afterSend σ idle cmd (paramFor cmd addr)).pending = skipped ++ 58 :: body ++ 10 :: σ'.pending ∧
      10 ∉ body ∧ ValidBody cmd body s.data ck := by
  obtain ⟨body, hsr, hp⟩ := Vd.veCommand_ok h
  obtain ⟨ck, hv⟩ := parseResponse_ok hp
  obtain ⟨sk, hs, hn⟩ := Vd.sendReceive_found hsr
  exact ⟨body, sk, ck, hs, hn, hv⟩

/-- **…and that frame was received from the device.** The accepting attempt is preceded by attempts that all
    retried, starting from the state the call was made in; the state `σa` in which the accepted frame was
    pending is the state those attempts lead to (not just any state), what stays pending afterwards is what
    followed the frame, and everything that was pending then — the frame included — is a subsequence, order
    kept, of what was pending when the call was made followed by the replies the port delivers for the writes
    since: bytes are only ever dropped (flush, failed read), never invented or reordered. -/
theorem get_sound_received (idles : List Bool) (σ σ' : Vd) (addr : Nat) (haddr : addr < 65536) (v : Bytes)
    (h : Vd.veCommandGetL idles σ addr = (σ', .ok v)) :
    ∃ (pre : List Bool) (idle : Bool) (post : List Bool) (σa : Vd) (body skipped : Bytes) (ck : Nat),
      idles = pre ++ idle :: post ∧ Vd.afterRetries pre σ addr = some σa ∧
      (σa.afterSend idle 7 (paramFor 7 addr)).pending = skipped ++ 58 :: body ++ 10 :: σ'.pending ∧
      10 ∉ body ∧ ValidBody 7 body ([addr % 256, addr / 256 % 256, 0] ++ v) ck ∧
      (skipped ++ 58 :: body ++ 10 :: σ'.pending).Sublist (σ.pending ++ σ.port.future) := by
  obtain ⟨pre, i, post, σa, body, hi, hpre, hsr, hv⟩ := Vd.veCommandGetL_done h (by simp)
  obtain ⟨ck, hvb⟩ := verdict_value hv
  obtain ⟨sk, hp, hn⟩ := Vd.sendReceive_found hsr
  refine ⟨pre, i, post, σa, body, sk, ck, hi, hpre, hp, hn, hvb, ?_⟩
  rw [← hp]
  exact ((List.sublist_append_left _ _).trans (σa.afterSend_run i 7 (paramFor 7 addr)).supply).trans
    (Vd.afterRetries_supply pre σ σa addr hpre)

/-- **C01 for register reads.** `VeCommandGet addr` returns a value `v` only if, after some attempt's
    command was sent, the pending bytes contained a complete frame that is a Get response (type 7) with a
    correct check byte whose payload is `addr_lo addr_hi 00 v` — requested address, flag 0 — and `v` is
    exactly the rest of that payload. Holds for every port script, fault plan, pending stream and idle pattern. -/
theorem get_sound (idles : List Bool) (σ σ' : Vd) (addr : Nat) (haddr : addr < 65536) (v : Bytes)
    (h : Vd.veCommandGetL idles σ addr = (σ', .ok v)) :
    ∃ (σa : Vd) (idle : Bool) (σr : Vd) (body skipped : Bytes) (ck : Nat),
      (afterSend σa idle 7 (paramFor 7 addr)).pending = skipped ++ 58 :: body ++ 10 :: σr.pending ∧
      10 ∉ body ∧ ValidBody 7 body ([addr % 256, addr / 256 % 256, 0] ++ v) ck := by
  obtain ⟨_, i, _, σa, body, sk, ck, _, _, hp, hn, hv, _⟩ := get_sound_received idles σ σ' addr haddr v h
  exact ⟨σa, i, σ', body, sk, ck, hp, hn, hv⟩

theorem getRaw_sound (idles : List Bool) (σ σ' : Vd) (addr : Nat) (haddr : addr < 65536) (v : Bytes)
    (h : σ.veCommandGet idles addr = (σ', .ok v)) :
    ∃ (σa : Vd) (idle : Bool) (σr : Vd) (body skipped : Bytes) (ck : Nat),
      (afterSend σa idle 7 (paramFor 7 addr)).pending = skipped ++ 58 :: body ++ 10 :: σr.pending ∧
      10 ∉ body ∧ ValidBody 7 body ([addr % 256, addr / 256 % 256, 0] ++ v) ck :=
  get_sound _ σ σ' addr haddr v h

/-- the typed accessors return the decoding of that same payload, or an error; never anything else -/
theorem uint_sound (σ : Vd) (idles : List Bool) (addr n : Nat) (h : (σ.getUint idles addr).2 = .ok n) :
    ∃ v, (σ.veCommandGet idles addr).2 = .ok v ∧ n = leUint v := by
  rw [Vd.getUint_eq] at h
  obtain ⟨v, hv, rfl⟩ := R.map'_eq_ok h
  exact ⟨v, hv, rfl⟩

theorem int_sound (σ : Vd) (idles : List Bool) (addr : Nat) (n : Int) (h : (σ.getInt idles addr).2 = .ok n) :
    ∃ v, (σ.veCommandGet idles addr).2 = .ok v ∧ leInt v = .ok n := by
  rw [Vd.getInt_eq] at h
  exact R.bind_eq_ok h

theorem string_sound (σ : Vd) (idles : List Bool) (addr : Nat) (t : Bytes) (h : (σ.getString idles addr).2 = .ok t) :
    ∃ v, (σ.veCommandGet idles addr).2 = .ok v ∧ t = trimNul v := by
  rw [Vd.getString_eq] at h
  obtain ⟨v, hv, rfl⟩ := R.map'_eq_ok h
  exact ⟨v, hv, rfl⟩

/-- **C01 for the device-id query**: an id is returned only for a complete valid Done (type 1) frame, and it
    is the little-endian value of the first two payload bytes of that frame. -/
theorem deviceId_sound (σ : Vd) (idle : Bool) (id : Nat) (h : (σ.getDeviceId idle).2 = .ok id) :
    ∃ (σr : Vd) (body skipped : Bytes) (ck : Nat) (payload : Bytes),
      (afterSend σ idle 4 []).pending = skipped ++ 58 :: body ++ 10 :: σr.pending ∧
      10 ∉ body ∧ ValidBody 4 body payload ck ∧ responseFor 4 = 1 ∧ id = leNat (payload.take 2) := by
  rw [Vd.getDeviceId_eq] at h
  cases hs : (σ.sendReceive idle 4 []).2 with
  | none => rw [hs] at h; cases h
  | some body =>
    rw [hs] at h
    obtain ⟨raw, hp, hraw⟩ := R.bind_eq_ok h
    obtain ⟨ck, hv⟩ := parseResponse_ok hp
    obtain ⟨sk, hpend, hn⟩ := Vd.sendReceive_found (Prod.ext rfl hs)
    split at hraw
    · cases hraw
    · exact ⟨_, body, sk, ck, raw.data, hpend, hn, hv, rfl, (R.ok.inj hraw).symm⟩

/-! Corruption classes named by the property: none of them is accepted. -/

theorem reject_truncated (cmd : Nat) (body : Bytes) (h : body.length < 7) (s : Slice) : parseResponse cmd body ≠ .ok s := by
  intro hp; obtain ⟨ck, hv⟩ := parseResponse_ok hp
  have := hv.len; omega

theorem reject_wrong_type (cmd : Nat) (body : Bytes) (h : (unhexDigit (body.headD 0)).getD 0 ≠ responseFor cmd) (s : Slice) :
    parseResponse cmd body ≠ .ok s := by
  intro hp; obtain ⟨ck, hv⟩ := parseResponse_ok hp
  exact h hv.nibble

theorem reject_odd_length (cmd : Nat) (body : Bytes) (h : body.tail.length % 2 = 1) (s : Slice) : parseResponse cmd body ≠ .ok s := by
  intro hp; obtain ⟨ck, hv⟩ := parseResponse_ok hp
  have := hv.even; omega

theorem reject_non_hex (cmd : Nat) (body : Bytes) (h : unhex body.tail = none) (s : Slice) : parseResponse cmd body ≠ .ok s := by
  intro hp; obtain ⟨ck, hv⟩ := parseResponse_ok hp
  rw [hv.hex] at h; simp at h

theorem reject_bad_check_byte (cmd : Nat) (body values : Bytes) (ck : Nat)
    (hx : unhex body.tail = some (values ++ [ck])) (h : ck ≠ checksum (responseFor cmd) values) (s : Slice) :
    parseResponse cmd body ≠ .ok s := by
  intro hp; obtain ⟨ck', hv⟩ := parseResponse_ok hp
  rw [hv.hex] at hx
  have := List.append_inj' (Option.some.inj hx) rfl
  simp at this
  obtain ⟨h1, h2⟩ := this
  rw [h1, h2] at hv
  exact h hv.sum.symm

/-- a frame for another register (or with a non-zero flag) never yields a value -/
theorem reject_foreign_address (addr a b f : Nat) (v spare : Bytes) (h : addr ≠ (a + 256 * b) % 65536) :
    getStep addr ⟨a :: b :: f :: v, spare⟩ = .retry := by
  rw [getStep_cons]; simp [h]

theorem reject_nonzero_flag (addr a b f : Nat) (v spare w : Bytes) (hf : f % 256 ≠ 0) :
    getStep addr ⟨a :: b :: f :: v, spare⟩ ≠ .value w :=
  fun h => hf (getStep_cons_value.mp h).2.1

/-- non-vacuity: a silent first attempt; then text noise and a valid response for another register, used up by the
    second attempt; the good frame for `Get 0x0100` (value 0x2A) behind it is accepted by the third — the model returns
    the value, and `get_sound`'s hypothesis is met by this run. -/
def demoPort : Port := { replies := [[], ["xy\r\n".toList.map Char.toNat, frameOf (getResponseBody 0x0A 0 [1]) , frameOf (getResponseBody 0x0100 0 [0x2A, 0])]] }
example : ((Vd.veCommandGet { port := demoPort } [true] 0x0100).2) = .ok [0x2A, 0] := by decide

end Victron.C01
