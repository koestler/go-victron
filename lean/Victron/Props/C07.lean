import Victron.Gen.Ble
import Victron.Spec.BleLayouts
import Victron.Proofs.Ble
/-
  C07 — BLE record decoders implement the published bit layout for every input.
  `Gen.Ble.decodeX` is the translation of /repo/bleparser's `DecodeX`, regenerated by tools/ble2lean on every run
  (T2) and executed against the real decoder on the same inputs (T3); `BleSpec.decode layoutX` is the layout
  specification (fixed in /verif). The thirteen theorems below say they are the same function — every input,
  every length, every spare capacity — so every property of the specification (bit slice, signedness,
  unit conversion, not-available codes, aux selection, enum rejection, locality) is a property of the code.
-/
namespace Victron.C07
open Victron Victron.Ble Victron.BleSpec

/-- a translated decoder conforms to a layout on all inputs and all spare capacities -/
def Conforms (f : Bytes → Bytes → R Rec) (L : Layout) : Prop :=
  ∀ inp spare, IsBytes inp → f inp spare = decode L inp

/-- A translated decoder is the length test, as the translator writes it (`len(inp) < n` in `Int`), in front of a body.
    Below the record length both sides are ErrInputTooShort, so the body need only agree with the layout from the record
    length on. `hf` holds by `rfl`: unifying finds `body` by unfolding `f` once, without looking into it. -/
theorem Conforms.of_guard {f body : Bytes → Bytes → R Rec} {L : Layout}
    (hf : ∀ inp spare, f inp spare = if (inp.length : Int) < L.n then .err .tooShort else body inp spare)
    (hbody : ∀ inp spare, IsBytes inp → L.n ≤ inp.length → body inp spare = decode L inp) : Conforms f L := by
  intro inp spare hb
  rw [hf]
  split
  · rw [(decode_tooShort_iff L inp).mpr (by omega)]
  · exact hbody inp spare hb (by omega)

/- The thirteen proofs have one shape (Proofs/Ble.lean): the length test is split off by `Conforms.of_guard`; the first
   `simp only` rewrites the generated side and names, with the constants of that decoder, the lemma for each idiom the
   Go code has there (a read wider than the slice, sign extension by shifting, an offset or a negation in a narrower
   type, fields set in a `switch` on the aux mode); `layout_bytes` rewrites the layout side; the enumerated bytes are
   accepted or rejected alike; `field_goals` compares the records field by field. Every field of the code as it stands
   is then the same term on both sides; `omega` closes what a decoder computes otherwise (an arithmetic fact about the
   few bytes a slice covers), at several times the cost. -/
theorem acCharger : Conforms Gen.Ble.decodeAcChargerRecord BleSpec.acCharger := by
  refine Conforms.of_guard (fun _ _ => rfl) fun inp spare hb (hn : 13 ≤ inp.length) => ?_
  simp only [len_check hn, cap_check hn, at'_of_lt hb hn, Nat.reduceLeDiff, Nat.reduceLT,
    add_mul_emod, Int.reduceMod, wrapS_emod_sub 16 128 40 (by decide)]
  layout_bytes BleSpec.acCharger hb hn
  generalize enumOk Gen.enums "SolarChargerState" _ = e0
  generalize enumOk Gen.enums "SolarChargerError" _ = e1
  cases e0 <;> cases e1 <;> field_goals <;> omega

theorem batteryMonitor : Conforms Gen.Ble.decodeBatteryMonitorRecord BleSpec.batteryMonitor := by
  refine Conforms.of_guard (fun _ _ => rfl) fun inp spare hb (hn : 15 ≤ inp.length) => ?_
  -- BatteryCurrent has two not-available codes: the code's `v ≠ a ∧ v ≠ b` is the layout's `¬ (v = a ∨ v = b)` (`← not_or`)
  simp only [len_check hn, cap_check hn, at'_of_lt hb hn, Nat.reduceLeDiff, Nat.reduceLT,
    add_mul_ediv_emod, add_mul_emod, Int.reduceMul, Int.reduceMod, Int.reduceLT, wrapS_shift 32 10 1024 rfl (by decide),
    wrapS_neg_emod 32 1048576 (by decide), ite_skip, eq_and_not_eq, eq_and_not_or, Int.reduceEq, not_false_eq_true,
    ne_eq, ← not_or]
  layout_bytes BleSpec.batteryMonitor hb hn
  field_goals <;> omega

theorem dcDcConverter : Conforms Gen.Ble.decodeDcDcConverterRecord BleSpec.dcDcConverter := by
  refine Conforms.of_guard (fun _ _ => rfl) fun inp spare hb (hn : 10 ≤ inp.length) => ?_
  simp only [len_check hn, cap_check hn, at'_of_lt hb hn, Nat.reduceLeDiff, Nat.reduceLT]
  layout_bytes BleSpec.dcDcConverter hb hn
  generalize enumOk Gen.enums "DcDcConverterState" _ = e0
  generalize enumOk Gen.enums "DcDcConverterError" _ = e1
  cases e0 <;> cases e1 <;> field_goals <;> omega

theorem dcEnergyMeter : Conforms Gen.Ble.decodeDcEnergyMeterRecord BleSpec.dcEnergyMeter := by
  refine Conforms.of_guard (fun _ _ => rfl) fun inp spare hb (hn : 11 ≤ inp.length) => ?_
  simp only [len_check hn, cap_check hn, at'_of_lt hb hn, Nat.reduceLeDiff, Nat.reduceLT,
    wrapS_shift 32 10 1024 rfl (by decide), ite_skip, eq_and_not_eq, Int.reduceEq, not_false_eq_true]
  layout_bytes BleSpec.dcEnergyMeter hb hn
  field_goals <;> omega

theorem gxDevice : Conforms Gen.Ble.decodeGxDeviceRecord BleSpec.gxDevice := by
  refine Conforms.of_guard (fun _ _ => rfl) fun inp spare hb (hn : 11 ≤ inp.length) => ?_
  simp only [len_check hn, cap_check hn, at'_of_lt hb hn, Nat.reduceLeDiff, Nat.reduceLT,
    add_mul_ediv_emod, add_mul_emod, Int.reduceMul, Int.reduceMod, Int.reduceLT, wrapS_shift 32 11 2048 rfl (by decide)]
  layout_bytes BleSpec.gxDevice hb hn
  field_goals <;> omega

theorem inverter : Conforms Gen.Ble.decodeInverterRecord BleSpec.inverter := by
  refine Conforms.of_guard (fun _ _ => rfl) fun inp spare hb (hn : 11 ≤ inp.length) => ?_
  simp only [len_check hn, cap_check hn, at'_of_lt hb hn, Nat.reduceLeDiff, Nat.reduceLT]
  -- AlarmReason goes through a field-list factory, which rejects nothing
  simp only [enumOk_of_none Gen.enums "InverterWarningReasons" _ (by decide +kernel), Bool.true_eq_false, ↓reduceIte]
  layout_bytes BleSpec.inverter hb hn
  generalize enumOk Gen.enums "InverterState" _ = e0
  cases e0 <;> field_goals <;> omega

theorem inverterRs : Conforms Gen.Ble.decodeInverterRsRecord BleSpec.inverterRs := by
  refine Conforms.of_guard (fun _ _ => rfl) fun inp spare hb (hn : 12 ≤ inp.length) => ?_
  simp only [len_check hn, cap_check hn, at'_of_lt hb hn, Nat.reduceLeDiff, Nat.reduceLT]
  layout_bytes BleSpec.inverterRs hb hn
  generalize enumOk Gen.enums "InverterState" _ = e0
  generalize enumOk Gen.enums "SolarChargerError" _ = e1
  cases e0 <;> cases e1 <;> field_goals <;> omega

theorem lynxSmartBms : Conforms Gen.Ble.decodeLynxSmartBms BleSpec.lynxSmartBms := by
  refine Conforms.of_guard (fun _ _ => rfl) fun inp spare hb (hn : 16 ≤ inp.length) => ?_
  simp only [len_check hn, cap_check hn, at'_of_lt hb hn, Nat.reduceLeDiff, Nat.reduceLT,
    add_mul_ediv_emod, add_mul_emod, Int.reduceMul, Int.reduceMod, Int.reduceLT,
    wrapS_emod_sub 16 128 40 (by decide), wrapS_neg_emod 32 1048576 (by decide)]
  layout_bytes BleSpec.lynxSmartBms hb hn
  field_goals <;> omega

theorem multiRs : Conforms Gen.Ble.decodeMultiRsRecord BleSpec.multiRs := by
  refine Conforms.of_guard (fun _ _ => rfl) fun inp spare hb (hn : 14 ≤ inp.length) => ?_
  simp only [len_check hn, cap_check hn, at'_of_lt hb hn, Nat.reduceLeDiff, Nat.reduceLT]
  layout_bytes BleSpec.multiRs hb hn
  generalize enumOk Gen.enums "InverterState" _ = e0
  generalize enumOk Gen.enums "SolarChargerError" _ = e1
  cases e0 <;> cases e1 <;> field_goals <;> omega

theorem smartBatteryProtect : Conforms Gen.Ble.decodeSmartBatteryProtectRecord BleSpec.smartBatteryProtect := by
  refine Conforms.of_guard (fun _ _ => rfl) fun inp spare hb (hn : 15 ≤ inp.length) => ?_
  simp only [len_check hn, cap_check hn, at'_of_lt hb hn, Nat.reduceLeDiff, Nat.reduceLT]
  layout_bytes BleSpec.smartBatteryProtect hb hn
  field_goals <;> omega

theorem smartLithium : Conforms Gen.Ble.decodeSmartLithiumRecord BleSpec.smartLithium := by
  refine Conforms.of_guard (fun _ _ => rfl) fun inp spare hb (hn : 16 ≤ inp.length) => ?_
  simp only [len_check hn, cap_check hn, at'_of_lt hb hn, Nat.reduceLeDiff, Nat.reduceLT,
    add_mul_ediv_emod, Int.reduceMul, Int.reduceMod, Int.reduceLT, wrapS_emod_sub 16 128 40 (by decide)]
  layout_bytes BleSpec.smartLithium hb hn
  field_goals <;> omega

theorem solarCharger : Conforms Gen.Ble.decodeSolarChargeRecord BleSpec.solarCharger := by
  refine Conforms.of_guard (fun _ _ => rfl) fun inp spare hb (hn : 12 ≤ inp.length) => ?_
  simp only [len_check hn, cap_check hn, at'_of_lt hb hn, Nat.reduceLeDiff, Nat.reduceLT]
  layout_bytes BleSpec.solarCharger hb hn
  generalize enumOk Gen.enums "SolarChargerState" _ = e0
  generalize enumOk Gen.enums "SolarChargerError" _ = e1
  cases e0 <;> cases e1 <;> field_goals <;> omega

theorem veBus : Conforms Gen.Ble.decodeVeBusRecord BleSpec.veBus := by
  refine Conforms.of_guard (fun _ _ => rfl) fun inp spare hb (hn : 13 ≤ inp.length) => ?_
  simp only [len_check hn, cap_check hn, at'_of_lt hb hn, Nat.reduceLeDiff, Nat.reduceLT,
    wrapS_shift 32 13 8192 rfl (by decide), wrapS_emod_sub 16 128 40 (by decide)]
  layout_bytes BleSpec.veBus hb hn
  field_goals <;> omega

/-- every decoder that exists in /repo/bleparser today has a layout (a new, unspecified decoder breaks this) -/
theorem decoders_covered : Gen.Ble.decoders = BleSpec.layouts.map (·.1) := by decide +kernel

theorem all_conform (name : String) (L : Layout) (h : (name, L) ∈ BleSpec.layouts) :
    ∃ f, Gen.Ble.decodeByName name = some f ∧ Conforms f L := by
  simp only [BleSpec.layouts, List.mem_cons, Prod.mk.injEq, List.mem_nil_iff, or_false] at h
  rcases h with ⟨rfl, rfl⟩ | ⟨rfl, rfl⟩ | ⟨rfl, rfl⟩ | ⟨rfl, rfl⟩ | ⟨rfl, rfl⟩ | ⟨rfl, rfl⟩ | ⟨rfl, rfl⟩ | ⟨rfl, rfl⟩ |
    ⟨rfl, rfl⟩ | ⟨rfl, rfl⟩ | ⟨rfl, rfl⟩ | ⟨rfl, rfl⟩ | ⟨rfl, rfl⟩
  · exact ⟨_, by rfl, acCharger⟩
  · exact ⟨_, by rfl, batteryMonitor⟩
  · exact ⟨_, by rfl, dcDcConverter⟩
  · exact ⟨_, by rfl, dcEnergyMeter⟩
  · exact ⟨_, by rfl, gxDevice⟩
  · exact ⟨_, by rfl, inverter⟩
  · exact ⟨_, by rfl, inverterRs⟩
  · exact ⟨_, by rfl, lynxSmartBms⟩
  · exact ⟨_, by rfl, multiRs⟩
  · exact ⟨_, by rfl, smartBatteryProtect⟩
  · exact ⟨_, by rfl, smartLithium⟩
  · exact ⟨_, by rfl, solarCharger⟩
  · exact ⟨_, by rfl, veBus⟩

/-- the record length of every layout is ⌈(last start + width) / 8⌉ and every row lies inside the record -/
theorem layouts_wellformed : BleSpec.layouts.all (fun p => lengthOk p.2 && within p.2) = true := by decide +kernel

/-- **Units.** Every converted field of every record has exactly one declared unit (`BleSpec.units`, compared with the
    `Unit:"…"` tag of the Go struct field on every run), and unit and conversion fit: °C exactly for the fields whose
    conversion ends on the Celsius scale (raw − 40, or 0.01 K − 273.15), K without an offset, seconds = minutes × 60. -/
theorem units_consistent : BleSpec.unitsOk = true := by decide +kernel

/-- **Bits outside a field never influence that field** (and mode-dependent fields depend only on their own
    slice and the two aux-input bits). -/
theorem field_locality (inp inp' : Bytes) (aux aux' : Nat) (r : Row)
    (hv : bits inp r.start r.width = bits inp' r.start r.width) (ha : r.aux ≠ none → aux = aux') :
    evalRow inp aux r = evalRow inp' aux' r :=
  BleSpec.field_locality inp inp' aux aux' r hv ha

/-- **Not-available codes**: an unsigned or signed numeric field is NaN exactly on its documented codes -/
theorem na_exact (inp : Bytes) (aux : Nat) (r : Row) (hk : r.kind = .u ∨ r.kind = .s) (ha : r.aux = none) :
    evalRow inp aux r = .f .nan ↔ r.na.contains (bits inp r.start r.width) = true := by
  unfold evalRow
  rcases hk with hk | hk <;> simp only [hk, ha] <;> (split <;> simp_all)

/-- **Two's complement**: `sx w v` is `v` below 2^(w-1) and `v - 2^w` from there on (the widths in use) -/
theorem sx_eq_if (v : Nat) :
    (v < 2 ^ 16 → sx 16 v = if v < 2 ^ 15 then (v : Int) else (v : Int) - 2 ^ 16) ∧
    (v < 2 ^ 19 → sx 19 v = if v < 2 ^ 18 then (v : Int) else (v : Int) - 2 ^ 19) ∧
    (v < 2 ^ 21 → sx 21 v = if v < 2 ^ 20 then (v : Int) else (v : Int) - 2 ^ 21) ∧
    (v < 2 ^ 22 → sx 22 v = if v < 2 ^ 21 then (v : Int) else (v : Int) - 2 ^ 22) :=
  ⟨sx_eq_ite 16 v (by decide), sx_eq_ite 19 v (by decide), sx_eq_ite 21 v (by decide), sx_eq_ite 22 v (by decide)⟩

/-- **Enum rejection**: codes outside the enumeration yield the enum error; nothing else does -/
theorem enum_rejection (L : Layout) (inp : Bytes) :
    decode L inp = .err .invalidEnum ↔ ¬ inp.length < L.n ∧ badEnum inp L.rows = true :=
  decode_invalidEnum_iff L inp

/-- non-vacuity: the sign-extension witness of the defect that was repaired (raw 0x3FFFFE = -0.002 A), a not
    available code, an enum rejection -/
example : Gen.Ble.decodeBatteryMonitorRecord [0,0,0,0,0,0,0,0,0xF8,0xFF,0xFF,0,0,0,0] [] =
    decode BleSpec.batteryMonitor [0,0,0,0,0,0,0,0,0xF8,0xFF,0xFF,0,0,0,0] := by decide
example : evalRow [0,0,0,0,0,0,0,0,0xF8,0xFF,0xFF,0,0,0,0] 0 ⟨"BatteryCurrent", 66, 22, .s, [0x3FFFFF, 0x1FFFFF], 1, 1000, "0", none, .nan⟩
    = .f (.num (-2) 1 1000 "0") := by decide
example : decode BleSpec.solarCharger [1,0,0,0,0,0,0,0,0,0,0,0] = .err .invalidEnum := by decide +kernel

end Victron.C07
