import Victron.Model.Api
import Victron.Proofs.Api
/-
  C10 — Register streaming: ordered, exactly-once, abort on error, stop on cancellation.
  Model: `stream` / `streamL` (StreamRegisterList) and `collect` (ReadRegisterList) over an abstract transport
  and cancellation point; compared with the real functions for every class's list and arbitrary sub-lists, a
  device failure at every register position, a cancellation at every position, every subset of nil handlers (T3).
  A cancellation issued by another goroutine takes effect at the next check: only the positions at which the
  loop can observe it are modelled (`cancelAt`); nothing is claimed about wall-clock latency.
-/
namespace Victron.C10
open Victron

def cbNames : List Ev → List String
  | [] => []
  | .cb n _ :: t => n :: cbNames t
  | .read _ :: t => cbNames t

def readAddrs : List Ev → List Nat
  | [] => []
  | .read a :: t => a :: readAddrs t
  | .cb _ _ :: t => readAddrs t

variable (tr : Transport) (enums fls : List EnumTable)

/-- **Ordered, exactly once, prefix.** Whatever the device does and whenever the context is cancelled: the
    handlers are invoked for exactly a prefix `planned.take k` of the planned registers, in list order, once
    each; the registers read on the wire are that same prefix — or that prefix plus the one register whose
    read failed, in which case the run ended with an error. Nothing after the end is read or reported, and a
    run that ends without error delivered everything. -/
theorem stream_prefix (cancelAt : Option Nat) (l : List Reg) (started : Nat) :
    ∃ k, k ≤ l.length ∧
      cbNames (streamL tr enums fls cancelAt l started).1 = (l.take k).map (·.name) ∧
      (readAddrs (streamL tr enums fls cancelAt l started).1 = (l.take k).map (·.address) ∨
       (k < l.length ∧ readAddrs (streamL tr enums fls cancelAt l started).1 = (l.take (k + 1)).map (·.address) ∧
        (streamL tr enums fls cancelAt l started).2 ≠ none)) ∧
      ((streamL tr enums fls cancelAt l started).2 = none → k = l.length) := by
  -- the branches of `streamL`: no register left; cancelled before the next one; its read succeeds, fails, panics
  fun_induction streamL tr enums fls cancelAt l started with
  | case1 => exact ⟨0, Nat.le_refl _, rfl, .inl rfl, fun _ => rfl⟩
  | case2 => exact ⟨0, by simp, rfl, .inl rfl, by simp⟩
  | case3 _ _ _ _ _ _ _ _ heq ih =>
    obtain ⟨k, hk, h1, h2, h3⟩ := ih
    rw [heq] at h1 h2 h3
    refine ⟨k + 1, by simpa using hk, by simp [cbNames, h1], ?_, by simpa using h3⟩
    rcases h2 with h2 | ⟨hlt, h2, h4⟩
    · exact .inl (by simp [readAddrs, h2])
    · exact .inr ⟨by simpa using hlt, by simp [readAddrs, h2], h4⟩
  | case4 | case5 => exact ⟨0, by simp, rfl, .inr ⟨by simp, rfl, by simp⟩, by simp⟩

/-- **A prefix that reads fine and is not interrupted** is delivered in full and the run goes on with the rest as if
    it had started there. The four scenarios below are this statement with the rest evaluated. -/
theorem stream_append (cancelAt : Option Nat) (pre rest : List Reg) (started : Nat) (vals : Reg → Val)
    (hok : ∀ x ∈ pre, readReg tr enums fls x = .ok (vals x))
    (hc : ∀ i, started ≤ i → i < started + pre.length → cancelled cancelAt i = false) :
    streamL tr enums fls cancelAt (pre ++ rest) started =
      (pre.flatMap (fun x => [.read x.address, .cb x.name (vals x)]) ++
        (streamL tr enums fls cancelAt rest (started + pre.length)).1,
       (streamL tr enums fls cancelAt rest (started + pre.length)).2) := by
  induction pre generalizing started with
  | nil => rfl
  | cons p pre ih =>
    rw [List.cons_append, streamL_ok (hc started (Nat.le_refl _) (by simp)) (hok p (by simp)),
      ih (started + 1) (fun x hx => hok x (by simp [hx])) (fun i h1 h2 => hc i (by omega) (by simp; omega))]
    simp [Nat.add_assoc, Nat.add_comm 1]

/-- **Complete run.** No failing register, no cancellation: every planned register is read and reported,
    in order, with the value `readReg` decodes, and the result is success. -/
theorem stream_complete (l : List Reg) (started : Nat) (vals : Reg → Val)
    (hok : ∀ r ∈ l, readReg tr enums fls r = .ok (vals r)) :
    streamL tr enums fls none l started = (l.flatMap (fun r => [.read r.address, .cb r.name (vals r)]), none) := by
  simpa [streamL] using stream_append tr enums fls none l [] started vals hok (fun _ _ _ => rfl)

/-- **Abort on the first failing register.** Registers before it are delivered, it is read, its error is
    returned, nothing after it is read or reported. -/
theorem stream_abort (pre post : List Reg) (r : Reg) (started : Nat) (vals : Reg → Val) (e : Err) (n : String)
    (hok : ∀ x ∈ pre, readReg tr enums fls x = .ok (vals x)) (hfail : readReg tr enums fls r = .err e n) :
    streamL tr enums fls none (pre ++ r :: post) started =
      (pre.flatMap (fun x => [.read x.address, .cb x.name (vals x)]) ++ [.read r.address], some (e, n)) := by
  rw [stream_append tr enums fls none pre _ started vals hok (fun _ _ _ => rfl), streamL_err rfl hfail]

/-- **The failing register's error wins over a later cancellation.** If the context ends only after the read of the
    failing register has started — while that register is being read (`k = pre.length + 1`: a poll with a timeout against
    a device that refuses or has died), or any time later — the run still ends with that register's error, not with
    ErrCtxDone; the registers before it are delivered, nothing after it is read. -/
theorem stream_abort_before_cancel (pre post : List Reg) (r : Reg) (k : Nat) (vals : Reg → Val) (e : Err) (n : String)
    (hok : ∀ x ∈ pre, readReg tr enums fls x = .ok (vals x)) (hfail : readReg tr enums fls r = .err e n)
    (hk : pre.length < k) :
    streamL tr enums fls (some k) (pre ++ r :: post) 0 =
      (pre.flatMap (fun x => [.read x.address, .cb x.name (vals x)]) ++ [.read r.address], some (e, n)) := by
  rw [stream_append tr enums fls (some k) pre _ 0 vals hok (fun i _ hi => by simp [cancelled_some]; omega),
    streamL_err (by simp [cancelled_some]; omega) hfail]

/-- **Stop on cancellation.** Once the context is observed cancelled (after `k` reads have started) no
    further register is read; if any remained, ErrCtxDone is returned, otherwise the run had already finished. -/
theorem stream_cancel (pre post : List Reg) (k : Nat) (vals : Reg → Val)
    (hok : ∀ x ∈ pre, readReg tr enums fls x = .ok (vals x)) (hk : k = pre.length) :
    streamL tr enums fls (some k) (pre ++ post) 0 =
      (pre.flatMap (fun x => [.read x.address, .cb x.name (vals x)]), if post = [] then none else some (.ctxDone, "")) := by
  rw [stream_append tr enums fls (some k) pre _ 0 vals hok (fun i _ hi => by simp [cancelled_some]; omega)]
  cases post with
  | nil => simp [streamL]
  | cons q post => rw [streamL_cancelled (by simp [cancelled_some, hk])]; simp

/-- **No I/O for nil handlers.** Only groups whose handler is set are planned, so nothing else is read. -/
theorem nil_group_no_io (cancelAt : Option Nat) (rl : RegList) (h : Handlers) (a : Nat)
    (ha : a ∈ readAddrs (stream tr enums fls cancelAt rl h).1) : ∃ r ∈ planned rl h, r.address = a := by
  obtain ⟨k, _, _, h2, _⟩ := stream_prefix tr enums fls cancelAt (planned rl h) 0
  unfold stream at ha
  rcases h2 with h2 | ⟨_, h2, _⟩ <;>
  · rw [h2] at ha
    obtain ⟨r, hr, rfl⟩ := List.mem_map.mp ha
    exact ⟨r, List.mem_of_mem_take hr, rfl⟩

theorem all_nil_no_events (cancelAt : Option Nat) (rl : RegList) :
    stream tr enums fls cancelAt rl ⟨false, false, false, false⟩ = ([], none) := by
  simp [stream, planned, streamL]

/-- The fold behind `collect`, started from any map: an entry of `acc` stays iff its name is not delivered again. -/
theorem foldl_collectStep (evs : List Ev) (acc : List (String × Val)) :
    evs.foldl collectStep acc = acc.filter (fun p => p.1 ∉ cbNames evs) ++ collect evs := by
  induction evs generalizing acc with
  | nil => simp [cbNames, collect_eq_foldl, List.filter_eq_self.mpr]
  | cons ev evs ih =>
    cases ev with
    | read a => exact ih acc
    | cb n v =>
      rw [collect_eq_foldl, List.foldl_cons, List.foldl_cons, ih, ih (collectStep [] _)]
      -- both sides: the entries of `acc` named neither `n` nor later, then `(n, v)` unless named later, then `collect evs`
      simp [cbNames, List.filter_filter, Bool.and_comm, bne, Bool.beq_eq_decide_eq]

theorem collect_read (a : Nat) (evs : List Ev) : collect (.read a :: evs) = collect evs := rfl

/-- `collect` read from the front: a delivery is kept iff its name is not delivered again later -/
theorem collect_cb (n : String) (v : Val) (evs : List Ev) :
    collect (.cb n v :: evs) = (if n ∈ cbNames evs then [] else [(n, v)]) ++ collect evs := by
  rw [collect_eq_foldl, List.foldl_cons, foldl_collectStep]
  by_cases h : n ∈ cbNames evs <;> simp [h]

/-- **Maps.** `ReadRegisterList` holds precisely the delivered values keyed by name: the value delivered last
    for a name is the one stored, and only delivered names are keys. -/
theorem collect_last (evs : List Ev) (n : String) (v : Val) :
    (collect (evs ++ [.cb n v])).find? (·.1 == n) = some (n, v) := by
  rw [collect_eq_foldl, List.foldl_append, List.foldl_cons, List.foldl_nil, collectStep_cb, List.find?_append]
  have : ((evs.foldl collectStep []).filter (fun p => p.1 != n)).find? (·.1 == n) = none := by
    rw [List.find?_eq_none]; intro x hx; simp [List.mem_filter] at hx; simp [hx.2]
  rw [this]; simp

theorem collect_keys_delivered (evs : List Ev) (p : String × Val) (hp : p ∈ collect evs) : p.1 ∈ cbNames evs := by
  induction evs with
  | nil => cases hp
  | cons ev evs ih =>
    cases ev with
    | read a => exact ih hp
    | cb n v =>
      rw [collect_cb, List.mem_append] at hp
      rcases hp with hp | hp
      · split at hp
        · cases hp
        · rw [List.mem_singleton.mp hp]; exact .head _
      · exact .tail _ (ih hp)

theorem cbNames_delivered (l : List Reg) (vals : Reg → Val) :
    cbNames (l.flatMap fun r => [Ev.read r.address, Ev.cb r.name (vals r)]) = l.map (·.name) := by
  induction l with
  | nil => rfl
  | cons r rest ih => simp [cbNames, ih]

theorem collect_complete (l : List Reg) (vals : Reg → Val) (hnd : (l.map (·.name)).Nodup) :
    collect (l.flatMap (fun r => [Ev.read r.address, Ev.cb r.name (vals r)])) = l.map (fun r => (r.name, vals r)) := by
  induction l with
  | nil => rfl
  | cons r rest ih =>
    rw [List.map_cons, List.nodup_cons] at hnd
    rw [List.flatMap_cons, List.cons_append, List.cons_append, List.nil_append, collect_read, collect_cb,
      cbNames_delivered, if_neg hnd.1, ih hnd.2]
    rfl

/-- non-vacuity: three registers, the second fails -/
def tr0 : Transport := ⟨.ok (), .ok 0, fun a => if a = 2 then .err .notSupported else .ok [a]⟩
def reg (a : Nat) (n : String) : Reg := ⟨1, "", n, "", 0, a, false, false, false, 1, "0", "", ""⟩
example : streamL tr0 [] [] none [reg 1 "a", reg 2 "b", reg 3 "c"] 0 =
    ([.read 1, .cb "a" (.num 1 1 "0"), .read 2], some (.notSupported, "b")) := by decide
example : streamL tr0 [] [] (some 1) [reg 1 "a", reg 3 "c"] 0 = ([.read 1, .cb "a" (.num 1 1 "0")], some (.ctxDone, "")) := by decide

end Victron.C10
