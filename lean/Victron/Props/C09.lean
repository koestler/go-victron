import Victron.Gen.Tables
import Victron.Model.Api
import Victron.Proofs.Hex
import Victron.Proofs.Text
import Victron.Props.C14
/-
  C09 — Register values are scaled and decoded exactly as the register defines.
  Model: `readNumber/readText/readEnum/readFieldList` (registerApi.go) over an abstract transport; register
  definitions and enum tables are the regenerated tables (T1); the readers are compared with the real ones for
  every register definition x raw values x widths (T3). A number is the symbolic triple (raw, factor, offset):
  the float `raw/factor + offset` is formed by the comparer exactly as the Go expression forms it.
-/
namespace Victron.C09
open Victron

/-- unsigned register: raw is the little-endian value of the (first eight) bytes, whatever the width -/
theorem number_unsigned (tr : Transport) (r : Reg) (bs : Bytes) (hs : r.signed = false) (hg : tr.get r.address = .ok bs) :
    readNumber tr r = .ok (.num (leUint bs) r.factor r.offset) := by
  simp [readNumber, hs, hg, R.map', wrap]

/-- signed register: raw is the two's complement reading at the width actually sent (1, 2, 4 or 8 bytes) -/
theorem number_signed (tr : Transport) (r : Reg) (bs : Bytes) (hs : r.signed = true) (hg : tr.get r.address = .ok bs)
    (hw : bs.length = 1 ∨ bs.length = 2 ∨ bs.length = 4 ∨ bs.length = 8) :
    readNumber tr r = .ok (.num (toS (8 * bs.length) (leNat bs)) r.factor r.offset) := by
  simp [readNumber, hs, hg, R.map', R.bind, leInt, hw, wrap]

/-- the boundary: the w-byte value 2^(8w-1) is -2^(8w-1) for a signed register and +2^(8w-1) for an unsigned one -/
theorem number_signed_boundary :
    toS 8 128 = -128 ∧ toS 16 32768 = -32768 ∧ toS 32 2147483648 = -2147483648 ∧
    toS 64 9223372036854775808 = -9223372036854775808 ∧ leUint [0, 128] = 32768 := by decide

/-- a width the signed reader cannot interpret is an error carrying the register's name, not a guess -/
theorem number_signed_bad_width (tr : Transport) (r : Reg) (bs : Bytes) (hs : r.signed = true) (hg : tr.get r.address = .ok bs)
    (hw : ¬ (bs.length = 1 ∨ bs.length = 2 ∨ bs.length = 4 ∨ bs.length = 8)) :
    readNumber tr r = .err .other r.name := by
  simp [readNumber, hs, hg, R.map', R.bind, leInt, hw, wrap]

/-- text: trailing NUL padding removed, then surrounding white space -/
theorem text_value (tr : Transport) (r : Reg) (bs : Bytes) (hg : tr.get r.address = .ok bs) :
    readText tr r = .ok (.text (trimSpace (trimNul bs))) := by
  simp [readText, hg, R.map', wrap]

/-- what "trailing NUL padding and then surrounding white space removed" means, exactly: the device bytes are
    `a ++ t ++ b ++ 0…0` with `a`, `b` strings of white-space runes (`unicode.IsSpace`, UTF-8 encoded), the part
    in front of the padding does not end in NUL, and the value `t` neither starts nor ends with a white-space
    rune; reading such a `t` back leaves it unchanged -/
theorem text_shape (tr : Transport) (r : Reg) (bs : Bytes) (hg : tr.get r.address = .ok bs) :
    ∃ t a b k, readText tr r = .ok (.text t) ∧ bs = (a ++ t ++ b) ++ List.replicate k 0 ∧
      (a ++ t ++ b).getLast? ≠ some 0 ∧ IsSpaces a ∧ IsSpaces b ∧ NoLeadingSpace t ∧ NoTrailingSpace t ∧
      trimSpace t = t := by
  obtain ⟨k, hk, hlast⟩ := trimNul_spec bs
  obtain ⟨a, b, ha, hb, hs, hl, ht⟩ := trimSpace_spec (trimNul bs)
  refine ⟨trimSpace (trimNul bs), a, b, k, text_value tr r bs hg, ?_, ?_, ha, hb, hl, ht, trimSpace_idem _⟩
  · rw [← hs]; exact hk
  · rw [← hs]; exact hlast

example : trimSpace (trimNul [32, 9, 72, 81, 32, 50, 0xC2, 0xA0, 0xE2, 0x80, 0x83, 0, 0]) = [72, 81, 32, 50] := by decide

/-- the conversion `int(uint64)` in front of `NewEnum` changes nothing: a value it turns negative was above 255 -/
theorem newEnum_toS64 (T : EnumTable) (v : Nat) (hv : v < 2 ^ 64) : T.newEnum (toS 64 v) = T.newEnum v := by
  unfold toS
  rw [Nat.mod_eq_of_lt hv]
  split
  · rfl
  · have h1 : (v : Int) - (2 ^ 64 : Nat) < 0 ∨ (v : Int) - (2 ^ 64 : Nat) > 255 := by omega
    have h2 : (v : Int) < 0 ∨ (v : Int) > 255 := by omega
    simp only [EnumTable.newEnum, h1, h2, if_true]

theorem readEnum_eq (tr : Transport) (tables : List EnumTable) (r : Reg) (T : EnumTable)
    (hf : tables.find? (·.name == r.factory) = some T) (bs : Bytes) (hb : IsBytes bs) (hg : tr.get r.address = .ok bs) :
    readEnum tr tables r = wrap r.name ((T.newEnum (leUint bs)).map' fun p => .enum p.1 p.2) := by
  simp only [readEnum, hg, R.bind, hf, newEnum_toS64 T _ (leUint_lt bs hb)]

/-- enum: a raw value that is a key of the register's enumeration yields the constant with that index and
    the mapped name — whatever width the device answered with -/
theorem enum_value (tr : Transport) (r : Reg) (T : EnumTable) (hT : T ∈ Gen.enums)
    (hf : Gen.enums.find? (·.name == r.factory) = some T) (bs : Bytes) (hb : IsBytes bs) (hg : tr.get r.address = .ok bs)
    (hk : (leUint bs : Int) ∈ C14.keys T) :
    ∃ n, T.lookup (leUint bs) = some n ∧ n ≠ "" ∧ readEnum tr Gen.enums r = .ok (.enum (leUint bs) n) := by
  rcases C14.newEnum_cases (C14.table_ok hT) (leUint bs) with ⟨n, hn, hl, hne, _⟩ | ⟨_, hnk⟩
  · exact ⟨n, hl, hne, by rw [readEnum_eq tr _ r T hf bs hb hg, hn]; rfl⟩
  · exact absurd hk hnk

/-- an undefined enum code — of any width, including values ≥ 256 and ≥ 2^63 — is an error matching
    ErrInvalidEnumIdx, wrapped with the register's name -/
theorem enum_undefined (tr : Transport) (r : Reg) (T : EnumTable) (hT : T ∈ Gen.enums)
    (hf : Gen.enums.find? (·.name == r.factory) = some T) (bs : Bytes) (hb : IsBytes bs) (hg : tr.get r.address = .ok bs)
    (hk : (leUint bs : Int) ∉ C14.keys T) :
    readEnum tr Gen.enums r = .err .invalidEnum r.name := by
  rw [readEnum_eq tr _ r T hf bs hb hg, C14.newEnum_error T hT _ hk]; rfl

/-- field list: the bit set of the raw value over the documented indices, and its rendering -/
theorem fieldlist_value (tr : Transport) (r : Reg) (T : EnumTable)
    (hf : Gen.fieldLists.find? (·.name == r.factory) = some T) (bs : Bytes) (hg : tr.get r.address = .ok bs) :
    readFieldList tr Gen.fieldLists r = .ok (.fields (T.fields (leUint bs)) (T.commaString (leUint bs))) := by
  simp [readFieldList, hg, hf, R.bind, wrap]

/-- **Transport errors are wrapped with the register's name and stay matchable** (C05's API clause): every
    reader passes the error kind on unchanged (`errors.Is` still matches) together with the name. -/
theorem transport_error_wrapped (tr : Transport) (r : Reg) (e : Err) (hg : tr.get r.address = .err e) :
    readNumber tr r = .err e r.name ∧ readText tr r = .err e r.name ∧
    readEnum tr Gen.enums r = .err e r.name ∧ readFieldList tr Gen.fieldLists r = .err e r.name := by
  refine ⟨?_, ?_, ?_, ?_⟩
  · unfold readNumber; rw [hg]; cases r.signed <;> rfl
  · unfold readText; rw [hg]; rfl
  · unfold readEnum; rw [hg]; rfl
  · unfold readFieldList; rw [hg]; rfl

/-- every enum / field-list register of every family names a decoder that exists in the tables -/
theorem decoders_resolve :
    (Gen.bmvAll.e ++ Gen.solarAll.e ++ Gen.inverterAll.e).all (fun r => (Gen.enums.find? (·.name == r.factory)).isSome) = true ∧
    (Gen.bmvAll.f ++ Gen.solarAll.f ++ Gen.inverterAll.f).all (fun r => (Gen.fieldLists.find? (·.name == r.factory)).isSome) = true := by
  decide +kernel

/-- trimming: every listed Unicode space is removed from both ends, interior ones stay -/
example : trimSpace ([0xC2, 0xA0, 32, 65, 32, 66, 0xE3, 0x80, 0x80, 9]) = [65, 32, 66] := by decide
example : trimSpace [0xC2, 32] = [0xC2] ∧ trimSpace [0xA0, 65] = [0xA0, 65] := by decide
/-- non-vacuity: a signed two-byte register holding 0xFFFE reads as -2, with the register's factor and offset carried along -/
example : readNumber ⟨.ok (), .ok 0, fun _ => .ok [0xFE, 0xFF]⟩ ⟨1, "", "X", "", 0, 5, false, false, true, 100, "0", "", ""⟩
    = .ok (.num (-2) 100 "0") := by decide

end Victron.C09
