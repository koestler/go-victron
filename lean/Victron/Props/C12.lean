import Victron.Gen.Tables
import Victron.Model.Select
import Victron.Spec.ListSpec
import Victron.Proofs.Lookup
/-
  C12 — Each product gets exactly the register list of its product class.
  `selectList` mirrors `GetRegisterListByProduct` over the regenerated tables (T1) and is compared with the
  real function on all 65536 ids, every attribute of every register (T3, exhaustive).
-/
namespace Victron.C12
open Victron ListSpec

def fam : Families := ⟨Gen.bmvAll, Gen.solarProduct, Gen.solarGeneric, Gen.solarSettings, Gen.solarChargerData,
  Gen.solarPanelData, Gen.solarLoadData, Gen.inverterAll⟩
def full : FullLists := ⟨Gen.bmvAll, Gen.solarAll, Gen.solarLoadData, Gen.inverterAll⟩

def sel (id : Nat) : RegList × Option Err := selectList Gen.products Gen.types fam id
def row (id : Nat) : ProductRow := productRow Gen.products id

/-- kernel evaluation over every row of the product table: the selected list is the class's list -/
theorem rows_ok : Gen.products.all (fun r => decide (sel r.id = specOf full (row r.id))) = true := by decide +kernel

/-- **For every id** the register list is the one of the product's class — the family's full list minus the
    class's documented exclusions — and all other products (VE.Can MPPTs, IP43 chargers, unknown ids) yield
    ErrUnsupportedType and an empty list. -/
theorem list_by_class (id : Nat) : sel id = specOf full (row id) := by
  rcases productRow_cases Gen.products id with h | ⟨hm, hid⟩
  · simp [sel, row, selectList, specOf, classOf, h, defaultProduct]
  · simpa only [decide_eq_true_eq, hid] using List.all_eq_true.mp rows_ok _ hm

/-- the list is determined solely by the class -/
theorem class_solely (id₁ id₂ : Nat) (h : classOf (row id₁) = classOf (row id₂)) : sel id₁ = sel id₂ := by
  rw [list_by_class, list_by_class]; simp [specOf, h]

/-- unsupported ⇒ error and an empty list; supported ⇒ no error -/
theorem unsupported_empty (id : Nat) (h : classOf (row id) = none) : sel id = ({}, some .unsupportedType) := by
  rw [list_by_class]; simp [specOf, h]

theorem supported_ok (id : Nat) (c : Class) (h : classOf (row id) = some c) : sel id = (listOf full c, none) := by
  rw [list_by_class]; simp [specOf, h]

/-- within each of the five class lists: names and addresses are unique, number factors are non-zero and
    every enum or field-list register carries a decoder -/
theorem lists_ok : ∀ c : Class, listOk (listOf full c) = true := by
  intro c; cases c <;> decide +kernel

/-- the load-output class really differs: PanelCurrent out, the load registers in -/
theorem load_class : (listOf full .mpptLoad).all.all (fun r => r.name != "PanelCurrent") = true ∧
    Gen.solarLoadData.all.all (fun r => (listOf full .mpptLoad).all.contains r) = true ∧
    (listOf full .mppt).all.any (fun r => r.name == "PanelCurrent") = true := by decide +kernel

/-- non-vacuity: one product of each class and three unsupported ones -/
example : classOf (row 0x203) = some .bmv ∧ classOf (row 0xA389) = some .bmvSmart ∧ classOf (row 0xA056) = some .mppt ∧
    classOf (row 0xA05F) = some .mpptLoad ∧ classOf (row 0xA2B1) = some .phoenix ∧
    classOf (row 0xA102) = none ∧ classOf (row 0xA340) = none ∧ classOf (row 0x1234) = none := by decide +kernel

end Victron.C12
