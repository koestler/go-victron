import Victron.Gen.Tables
import Victron.Spec.ProductSpec
import Victron.Proofs.Lookup
/-
  C13 — The product table is internally coherent for all ids.
  `Gen.products` / `Gen.types` are the complete graphs of veproduct's functions over all 65536 ids and all
  256 type values, regenerated from /repo by tools/extract on every run (T1): a fact decided by the kernel
  for every row, lifted by the lookup lemma, is a fact about the code's behaviour on its whole domain.
-/
namespace Victron.C13
open Victron ProductSpec

/-- every row of today's table meets the per-row specification (kernel evaluation over the whole table) -/
theorem rows_ok : Gen.products.all (rowOk Gen.types) = true := by decide +kernel

theorem types_ok : Gen.types.all typeOk = true := by decide +kernel

/-- ids are strictly ascending: the lookup is unambiguous and there are no duplicate ids -/
theorem ids_ascending : strictlyAscending (Gen.products.map (·.id)) = true := by decide +kernel

/-- the exported string map has exactly one entry per known product -/
theorem map_size : Gen.stringMapSize = (Gen.products.filter (·.inMap)).length := by decide +kernel

def row (id : Nat) : ProductRow := productRow Gen.products id

theorem row_cases (id : Nat) : row id = defaultProduct id ∨ RowOk Gen.types id (row id) := by
  rcases productRow_cases Gen.products id with h | ⟨hm, hid⟩
  · exact .inl h
  · have := RowOk.of_rowOk (List.all_eq_true.mp rows_ok _ hm)
    rw [hid] at this
    exact .inr this

theorem row_known (id : Nat) (hk : (row id).exists_ = true) : RowOk Gen.types id (row id) := by
  rcases row_cases id with h | h
  · rw [h] at hk; cases hk
  · exact h

/-- **Known ⇔ non-empty model ⇔ known type ⇔ present in the string map**, for every id. -/
theorem known_iff (id : Nat) :
    ((row id).exists_ = true ↔ (row id).model ≠ "") ∧ ((row id).exists_ = true ↔ (row id).type ≠ 0) ∧
    ((row id).exists_ = true ↔ (row id).inMap = true) := by
  rcases row_cases id with h | ok
  · rw [h]; simp [defaultProduct]
  · simp [ok.exists_, ok.model, ok.type, ok.inMap]

/-- **Display string** = type name + space + model, and the map's value is that string; unknown ids print "". -/
theorem display_string (id : Nat) :
    ((row id).exists_ = true → (row id).str = (typeRow Gen.types (row id).type).name ++ " " ++ (row id).model ∧
        (row id).mapVal = (row id).str) ∧
    ((row id).exists_ = false → (row id).str = "") := by
  rcases row_cases id with h | ok
  · rw [h]; simp [defaultProduct]
  · exact ⟨fun _ => ⟨ok.str, ok.mapVal⟩, fun hf => by rw [ok.exists_] at hf; cases hf⟩

/-- **Exactly one category**, the one of the id range (0x02xx, 0xA38x BMV; 0x03xx, 0xA0xx, 0xA1xx solar;
    0xA2xx, 0xA34x inverter). -/
theorem one_category (id : Nat) (hk : (row id).exists_ = true) :
    categoryOf (typeRow Gen.types (row id).type) = some (rangeCategory id) ∧ rangeCategory id ≠ 0 :=
  have hc := (row_known id hk).category
  ⟨hc, fun h0 => categoryOf_ne_zero _ (h0 ▸ hc)⟩

/-- …and within the category, the product family (type) is one of those of the id block: 0x02xx BMV; 0xA38x BMV Smart
    or SmartShunt; 0x03xx BlueSolar; 0xA0xx BlueSolar / SmartSolar MPPT; 0xA1xx their VE.Can variants; 0xA2xx Phoenix
    Inverter (Smart); 0xA34x Phoenix Smart IP43 Charger -/
theorem family_of_id_block (id : Nat) (hk : (row id).exists_ = true) : (row id).type ∈ rangeTypes id :=
  (row_known id hk).family

/-- **Panel numbers**: minus one for both numbers for non-solar products (and unknown ids), else the two numbers of the designation. -/
theorem panel_numbers (id : Nat) :
    if (typeRow Gen.types (row id).type).solar then designation (row id).model = some ((row id).mpv, (row id).mpc)
    else (row id).mpv = -1 ∧ (row id).mpc = -1 := by
  rcases row_cases id with h | ok
  · rw [h]
    have : (typeRow Gen.types 0).solar = false := by decide +kernel
    simp [this, defaultProduct]
  · exact ok.panel

/-- **Phoenix inverters**: the model string of every known 0xA2xy product is the string rebuilt from the
    battery-voltage, power and AC-voltage digits of its id. -/
theorem phoenix_model (id : Nat) (hk : (row id).exists_ = true) (hr : id / 256 = 0xA2) :
    phoenixModel id = some (row id).model :=
  (row_known id hk).phoenix hr

/-- **Types**: of the 256 type values exactly those in the table have a name or a category; they lie in
    1..10 and each is in exactly one category. -/
theorem types_partition (t : Nat) :
    (typeRow Gen.types t = defaultType t) ∨
    (1 ≤ t ∧ t ≤ 10 ∧ (typeRow Gen.types t).name ≠ "" ∧ (categoryOf (typeRow Gen.types t)).isSome = true) := by
  rcases typeRow_cases Gen.types t with h | ⟨hm, ht⟩
  · exact .inl h
  · right
    simpa only [typeOk, Bool.and_eq_true, decide_eq_true_eq, bne_iff_ne, ne_eq, ht, and_assoc] using
      List.all_eq_true.mp types_ok _ hm

/-- all ten named types are present -/
theorem ten_types : (Gen.types.map (·.t)) = [1, 2, 3, 4, 5, 6, 7, 8, 9, 10] := by decide +kernel

/-- non-vacuity: a known solar charger, a Phoenix inverter, an unknown id -/
example : (row 0xA056).exists_ = true ∧ (row 0xA056).mpv = 100 ∧ (row 0xA056).mpc = 30 := by decide +kernel
example : phoenixModel 0xA2FA = some "24V 1200VA 120Vac 64k HS" := by decide +kernel
example : row 0x1234 = defaultProduct 0x1234 := by decide +kernel

end Victron.C13
