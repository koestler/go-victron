import Victron.Gen.Tables
import Victron.Model.Cli
import Victron.Props.C10
import Victron.Props.C11
import Victron.Props.C16
import Victron.Proofs.Cli
/-
  C20 — The CLI reports what the device holds, end to end.
  Model: `Cli.run` = connect (C11) + read-all (C10) + GetList + printing, over an abstract transport; compared
  with the REAL `vecli` binary built from /repo and run against a simulated device behind a pseudo-terminal
  (product classes x register contents x {no flag, -v, --io-log} x silent-after-k), stdout parsed line by line;
  the written I/O log is replayed through a lookup port (T3). The OS serial layer, termios timing and fmt are
  exercised, not modelled: the no-hang clause for the real binary is a harness timeout.
-/
namespace Victron.C20
open Victron Victron.Cli

def run (tr : Transport) : Output := Cli.run tr Gen.products Gen.types C12.fam Gen.enums Gen.fieldLists

/-- connecting fails (silent device, unknown or unsupported product): the error is reported, nothing else -/
theorem connect_error (tr : Transport) (h : (C11.conn tr).isOk = false) :
    run tr = ⟨.connectError, none, []⟩ :=
  Cli.run_not_connected h _ _

/-- **The device stops answering** (or any register fails): the error is reported, no register line is
    printed, and the run terminates — `run` is a total function. -/
theorem fetch_error (tr : Transport) (id : Nat) (rl : RegList) (hc : C11.conn tr = .ok (id, rl))
    (e : Err × String) (hs : (stream tr Gen.enums Gen.fieldLists none rl {}).2 = some e) :
    run tr = ⟨.fetchError, some 0, []⟩ := by
  rw [run, Cli.run_connected hc, if_neg (by simp [hs])]

theorem run_shape (tr : Transport) : run tr = ⟨.connectError, none, []⟩ ∨ run tr = ⟨.fetchError, some 0, []⟩ ∨
    ∃ rl vals, run tr = ⟨.ok, some (linesOf rl vals).length, linesOf rl vals⟩ := by
  cases hc : C11.conn tr with
  | ok v =>
    right
    rw [run, Cli.run_connected (id := v.1) (rl := v.2) hc]
    split
    · exact .inr ⟨_, _, rfl⟩
    · exact .inl rfl
  | err e => exact .inl (connect_error tr (by rw [hc]; rfl))
  | panic => exact .inl (connect_error tr (by rw [hc]; rfl))

/-- **Header.** The number printed is the number of register lines. -/
theorem count_is_lines (tr : Transport) (n : Nat) (h : (run tr).count = some n) :
    (run tr).status ≠ .connectError ∧ n = (run tr).lines.length := by
  rcases run_shape tr with h' | h' | ⟨rl, vals, h'⟩ <;> rw [h'] at h ⊢ <;> simp at h ⊢ <;> exact h.symm

/-- **Order.** The register lines are ordered by non-decreasing sort key. -/
theorem lines_sorted (tr : Transport) : (run tr).lines.Pairwise (fun a b => a.sort ≤ b.sort) := by
  rcases run_shape tr with h | h | ⟨rl, vals, h⟩ <;> rw [h]
  · exact .nil
  · exact .nil
  · exact pairwise_mergeSort_key Line.sort _

/-- **Content.** Every line is a register of the connected product's list (its sort key and unit) showing a
    value that was delivered by the read — which, by C10, is the value `readReg` decodes from what the device
    holds, scaled as the register defines (C09). -/
theorem lines_are_registers (tr : Transport) (id : Nat) (rl : RegList) (hc : C11.conn tr = .ok (id, rl)) (l : Line)
    (hl : l ∈ (run tr).lines) :
    ∃ r ∈ rl.all, r.name = l.name ∧ r.sort = l.sort ∧ r.unit = l.unit ∧
      (l.name, l.val) ∈ collect (stream tr Gen.enums Gen.fieldLists none rl {}).1 := by
  rw [run, Cli.run_connected hc] at hl
  split at hl
  · obtain ⟨p, hp, r, hr, rfl⟩ := Cli.mem_linesOf.mp hl
    exact ⟨r, List.mem_of_find?_eq_some hr, by simpa using List.find?_some hr, rfl, rfl, hp⟩
  · cases hl

/-- with a healthy device every delivered name appears: nothing is lost between the read and the print-out -/
theorem all_delivered_printed (tr : Transport) (id : Nat) (rl : RegList) (hc : C11.conn tr = .ok (id, rl))
    (hs : (stream tr Gen.enums Gen.fieldLists none rl {}).2 = none) (p : String × Val)
    (hp : p ∈ collect (stream tr Gen.enums Gen.fieldLists none rl {}).1) (hr : ∃ r ∈ rl.all, r.name = p.1) :
    ∃ l ∈ (run tr).lines, l.name = p.1 ∧ l.val = p.2 := by
  rw [run, Cli.run_connected hc, if_pos hs]
  obtain ⟨r, hrm, hrn⟩ := hr
  have hf : (rl.all.find? (·.name == p.1)).isSome := List.find?_isSome.mpr ⟨r, hrm, by simpa using hrn⟩
  obtain ⟨r', hr'⟩ := Option.isSome_iff_exists.mp hf
  exact ⟨⟨r'.sort, p.1, p.2, r'.unit⟩, Cli.mem_linesOf.mpr ⟨p, hp, r', hr', rfl⟩, rfl, rfl⟩

/-- the register names of a connected product's list are pairwise distinct (C11 + C12) -/
theorem connected_names_unique (tr : Transport) (id : Nat) (rl : RegList) (hc : C11.conn tr = .ok (id, rl)) :
    (rl.all.map (·.name)).Nodup := by
  obtain ⟨_, hrl, hnone⟩ := C11.connect_product tr id rl hc
  cases hcl : ListSpec.classOf (C12.row id) with
  | none => rw [C12.unsupported_empty id hcl] at hnone; cases hnone
  | some c =>
    rw [C12.supported_ok id c hcl] at hrl
    subst hrl
    exact ListSpec.listOk_names_nodup (C12.lists_ok c)

/-- **One line per register.** A healthy device of a supported product — every register of the product's list
    reads successfully — yields status ok, a header count equal to the length of the product's list, exactly
    that many lines, and for every register of the list a line carrying its name, sort key, unit and the
    value read from the device (which by C09 is the device's content scaled as the register defines). -/
theorem run_complete (tr : Transport) (id : Nat) (rl : RegList) (hc : C11.conn tr = .ok (id, rl))
    (vals : Reg → Val) (hok : ∀ r ∈ rl.all, readReg tr Gen.enums Gen.fieldLists r = .ok (vals r)) :
    (run tr).status = .ok ∧ (run tr).count = some rl.len ∧ (run tr).lines.length = rl.len ∧
    ∀ r ∈ rl.all, ⟨r.sort, r.name, vals r, r.unit⟩ ∈ (run tr).lines := by
  have hnd := connected_names_unique tr id rl hc
  have hst : stream tr Gen.enums Gen.fieldLists none rl {} =
      (rl.all.flatMap (fun r => [Ev.read r.address, Ev.cb r.name (vals r)]), none) :=
    C10.stream_complete tr Gen.enums Gen.fieldLists rl.all 0 vals hok
  rw [run, Cli.run_connected hc, hst, if_pos rfl, C10.collect_complete rl.all vals hnd, Cli.linesOf_complete rl vals hnd]
  have hlen : ((rl.all.map fun r => Line.mk r.sort r.name (vals r) r.unit).mergeSort
      fun a b => decide (a.sort ≤ b.sort)).length = rl.len := by
    rw [List.length_mergeSort, List.length_map, C16.len_total]
  exact ⟨rfl, congrArg some hlen, hlen, fun r hr =>
    (List.mergeSort_perm _ _).mem_iff.mpr (List.mem_map_of_mem (f := fun r => Line.mk r.sort r.name (vals r) r.unit) hr)⟩

/-- non-vacuity: a BMV 700 whose device answers every register with one byte: 27 lines, sorted; the same
    device falling silent: the error, no lines -/
def healthy : Transport := ⟨.ok (), .ok 0x203, fun _ => .ok [1]⟩
def dead : Transport := ⟨.ok (), .ok 0x203, fun a => if a = 0x0100 then .ok [1] else .err .other⟩
example : (run healthy).status = .ok := by decide +kernel
example : (collect (stream healthy Gen.enums Gen.fieldLists none (C12.sel 0x203).1 {}).1).length = 27 := by decide +kernel
example : run dead = ⟨.fetchError, some 0, []⟩ := by decide +kernel
example : C11.conn healthy = .ok (0x203, (C12.sel 0x203).1) ∧ (C12.sel 0x203).1.len = 27 := by decide +kernel

end Victron.C20
